import Narwhal.Lemmas.Handlers
import Narwhal.Lemmas.Views
/-!
# C04 — only the owner administers, only members observe (gates) ; refused requests change nothing

For every state and every caller: a request *succeeds* (is acknowledged) only when its admission
check passed, and the check passes only for the owner (SET_CHAN_ACL, GET_CHAN_ACL, SET_CHAN_CONFIG,
JOIN/LEAVE on behalf) resp. a member (MEMBERS, GET_CHAN_CONFIG, BROADCAST) of the channel *in the
state before the request*.  A refused request leaves the whole server state untouched and emits exactly
one ERROR to the caller — unless the reason is non-recoverable, in which case the only further effect is
the caller's own disconnection.
-/
namespace Narwhal.Server

/-- every handler is "refuse via `fail`, or commit" -/
theorem refused_is_fail (s : Srv) (k : Nat) (u : Str) (env : Env) :
    (∀ id c ob e, joinCheck s u id c ob = .error e → doJoin s k u id c ob env = fail s k e.1 e.2 env) ∧
    (∀ id c ob e, leaveCheck s u id c ob = .error e → doLeave s k u id c ob env = fail s k e.1 e.2 env) ∧
    (∀ id c q p e, broadcastCheck s u id c q p env = .error e → doBroadcast s k u id c q p env = fail s k e.1 e.2 env) ∧
    (∀ id c pg sz e, membersCheck s u id c = .error e → doMembers s k u id c pg sz env = fail s k e.1 e.2 env) ∧
    (∀ id c t pg sz e, getAclCheck s u id c = .error e → doGetAcl s k u id c t pg sz env = fail s k e.1 e.2 env) ∧
    (∀ id c t a ns e, setAclCheck s u id c t a ns = .error e → doSetAcl s k u id c t a ns env = fail s k e.1 e.2 env) ∧
    (∀ id c e, getConfigCheck s u id c = .error e → doGetConfig s k u id c env = fail s k e.1 e.2 env) ∧
    (∀ id c mc mp e, setConfigCheck s u id c mc mp = .error e → doSetConfig s k u id c mc mp env = fail s k e.1 e.2 env) :=
  ⟨fun _ _ _ _ => doJoin_refused, fun _ _ _ _ => doLeave_refused, fun _ _ _ _ _ => doBroadcast_refused,
    fun _ _ _ _ _ => doMembers_refused, fun _ _ _ _ _ _ => doGetAcl_refused, fun _ _ _ _ _ _ => doSetAcl_refused,
    fun _ _ _ => doGetConfig_refused, fun _ _ _ _ _ => doSetConfig_refused⟩

/-- **a recoverable refusal is a no-op**: state unchanged, exactly one ERROR to the caller, nothing to anybody else -/
theorem C04_refused_noop (s : Srv) (k : Nat) (id : Option Nat) (r : Reason) (env : Env) (hr : r.recoverable = true) :
    fail s k id r env = (s, [{ conn := k, frame := .error id r }]) :=
  fail_stays s k id env hr

/-- **a non-recoverable refusal only disconnects the caller**: the state is the one after the caller's
    connection ended, the caller gets the closing ERROR, everybody else sees only the clean-up EVENTs -/
theorem C04_refused_closes (s : Srv) (k : Nat) (id : Option Nat) (r : Reason) (env : Env) (hr : r.recoverable = false) :
    (fail s k id r env).1 = (dropConn s k env).1 ∧
      (fail s k id r env).2 = { conn := k, frame := .error id r, close := true } :: (dropConn s k env).2 := by
  rw [fail_closes s k id env hr]; exact ⟨rfl, rfl⟩

/-- **owner gates**: acknowledged SET_CHAN_ACL / GET_CHAN_ACL / SET_CHAN_CONFIG imply the caller owned
    the (local, existing) channel in the pre-state -/
theorem C04_owner_gates (s : Srv) (u : Str) (id : Nat) (raw : Str) :
    (∀ t a ns c, setAclCheck s u id raw t a ns = .ok c →
        ∃ h, Id.parseChannelId raw = some (h, s.cfg.domain) ∧ findChan s.chans h = some c ∧ c.owner = some u) ∧
    (∀ c, getAclCheck s u id raw = .ok c →
        ∃ h, Id.parseChannelId raw = some (h, s.cfg.domain) ∧ findChan s.chans h = some c ∧ c.owner = some u) ∧
    (∀ mc mp c, setConfigCheck s u id raw mc mp = .ok c →
        ∃ h, Id.parseChannelId raw = some (h, s.cfg.domain) ∧ findChan s.chans h = some c ∧ c.owner = some u) :=
  ⟨fun _ _ _ _ h => (setAclCheck_checked.ok h).1, fun _ => getAclCheck_checked.ok, fun _ _ _ h => (setConfigCheck_checked.ok h).1⟩

/-- **on-behalf gates**: a JOIN or LEAVE naming somebody else is admitted only for the channel's owner -/
theorem C04_on_behalf_gates (s : Srv) (u : Str) (id : Nat) (raw : Str) (ob : Str) :
    (∀ h m, joinCheck s u id raw (some ob) = .ok (h, m) → (chanOrNew s h).owner = some u) ∧
    (∀ c m, leaveCheck s u id raw (some ob) = .ok (c, m) → c.owner = some u) := by
  -- a passed check has parsed the name given (`parsed`), so `joinMember` / `leaveTarget` took their on-behalf branch
  constructor
  · intro h m hc
    have ok := joinCheck_checked.ok hc
    rcases joinMember_ok ok.member with ⟨hnone, _⟩ | ⟨od, _, ho, _⟩
    · exact absurd (congrArg some hnone) ok.parsed
    · exact ho
  · intro c m hc
    have ok := leaveCheck_checked.ok hc
    rcases leaveTarget_ok ok.target with ⟨hnone, _⟩ | ⟨od, _, ho⟩
    · exact absurd (congrArg some hnone) ok.parsed
    · exact ho

/-- **member gates**: acknowledged MEMBERS / GET_CHAN_CONFIG / BROADCAST imply the caller was a member -/
theorem C04_member_gates (s : Srv) (u : Str) (id : Nat) (raw : Str) :
    (∀ c, membersCheck s u id raw = .ok c → u ∈ c.members) ∧
    (∀ c, getConfigCheck s u id raw = .ok c → u ∈ c.members) ∧
    (∀ q p env c p', broadcastCheck s u id raw q p env = .ok (c, p') → u ∈ c.members) :=
  ⟨fun _ h => (membersCheck_checked.ok h).2, fun _ h => (getConfigCheck_checked.ok h).2,
    fun _ _ _ _ _ h => (broadcastCheck_checked.ok h).member⟩

/-- acknowledgements come only from passed checks (no ack on a refused request) -/
theorem C04_ack_requires_check (s : Srv) (k : Nat) (u : Str) (id : Nat) (raw : Str) (t : AclType) (a : AclAction)
    (ns : List Str) (env : Env) (e : Emit) (he : e ∈ (doSetAcl s k u id raw t a ns env).2) (hf : e.frame = .setAclAck id) :
    ∃ c, setAclCheck s u id raw t a ns = .ok c := by
  cases hc : setAclCheck s u id raw t a ns with
  | ok c => exact ⟨c, rfl⟩
  | error e =>
    -- refused: an ERROR and clean-up EVENTs
    rw [doSetAcl_refused hc] at he
    rcases mem_fail he with h | h
    · rw [hf] at h; cases h
    · have := h.1; rw [hf] at this; cases this

/-- **one owner, who is a member**: in every state reachable by any history, every existing channel has
    members, exactly one owner (`owner` is a single optional field) and that owner is one of the members. -/
theorem C04_one_owner (cfg : Cfg) (hist : List (Op × Env)) (h : Str) (c : Chan)
    (hf : findChan (run (init cfg) hist).1.chans h = some c) :
    c.members ≠ [] ∧ ∃ o, c.owner = some o ∧ o ∈ c.members :=
  let ok := (reachable_ChansOK cfg hist h c hf).2
  ⟨ok.2.1, ok.2.2.1⟩

/-- the successor of a departing owner is one of the remaining members -/
theorem C04_successor_is_member (env : Env) (c1 : Chan) (u : Str) (hne : c1.members ≠ []) :
    pickOwner env c1 u ∈ c1.members := pickOwner_mem env c1 u hne

end Narwhal.Server

#print axioms Narwhal.Server.C04_one_owner
#print axioms Narwhal.Server.C04_successor_is_member
#print axioms Narwhal.Server.refused_is_fail
#print axioms Narwhal.Server.C04_refused_noop
#print axioms Narwhal.Server.C04_refused_closes
#print axioms Narwhal.Server.C04_owner_gates
#print axioms Narwhal.Server.C04_on_behalf_gates
#print axioms Narwhal.Server.C04_member_gates
#print axioms Narwhal.Server.C04_ack_requires_check
