import Narwhal.Model.Direct
import Narwhal.Lemmas.Lists
/-!
# C17 — direct messages reach exactly their targets; client ones reach the modulator

For every router state (any number of users with any number of live connections), every target list (present, absent,
repeated in any positions) and every payload.
-/
namespace Narwhal.Direct

theorem mem_dedup (ts seen : List Str) (t : Str) : t ∈ dedup ts seen ↔ t ∈ ts ∧ t ∉ seen := by
  induction ts generalizing seen with
  | nil => simp [dedup]
  | cons x xs ih =>
    simp only [dedup, List.contains_iff_mem]
    by_cases e : t = x
    · subst e
      split
      · next hs => simp [ih, hs]   -- seen before: not delivered again
      · next hs => simp [hs]       -- the first occurrence
    · split <;> simp [ih, e]       -- another user's turn changes nothing for `t`

theorem nodup_dedup (ts seen : List Str) : (dedup ts seen).Nodup := by
  induction ts generalizing seen with
  | nil => simp [dedup]
  | cons x xs ih =>
    simp only [dedup]
    split
    · exact ih seen
    · exact List.nodup_cons.mpr ⟨by simp [mem_dedup], ih _⟩

def copies (ds : List Delivery) (k : Nat) : Nat := (ds.filter (fun d => d.conn = k)).length

/-- router well-formedness: a connection is registered once, under one username -/
structure RouterWF (rt : Router) : Prop where
  nodup    : ∀ u, (connsOf rt u).Nodup
  disjoint : ∀ u v k, u ≠ v → k ∈ connsOf rt u → k ∉ connsOf rt v

theorem connsOf_mem (rt : Router) (u : Str) : connsOf rt u = [] ∨ (u, connsOf rt u) ∈ rt := by
  induction rt with
  | nil => exact .inl rfl
  | cons e rt ih =>
    simp only [connsOf]
    split
    · next h => exact .inr (h ▸ List.mem_cons_self)
    · exact ih.imp_right (List.mem_cons_of_mem _)

theorem RouterWF.of_entries {rt : Router} (hn : ∀ e ∈ rt, e.2.Nodup)
    (hd : ∀ e ∈ rt, ∀ e' ∈ rt, e.1 ≠ e'.1 → ∀ k ∈ e.2, k ∉ e'.2) : RouterWF rt where
  nodup u := (connsOf_mem rt u).elim (fun h => h ▸ .nil) (hn _)
  disjoint u v k huv hk hk' := by
    rcases connsOf_mem rt u with h | h
    · rw [h] at hk; cases hk
    rcases connsOf_mem rt v with h' | h'
    · rw [h'] at hk'; cases hk'
    exact hd _ h _ h' huv k hk hk'

/-- `routeDirect` without the `dedup` (hence `Nodup`) -/
theorem copies_fanout (rt : Router) (hw : RouterWF rt) (domain : Str) (p : Payload) (us : List Str) (hn : us.Nodup) (k : Nat) :
    copies (us.flatMap fun u => (connsOf rt u).map fun k' => { conn := k', frm := domain, payload := p }) k =
      if ∃ u ∈ us, k ∈ connsOf rt u then 1 else 0 := by
  unfold copies
  rw [← List.countP_eq_length_filter]
  split
  · next h =>
    -- `k` belongs to `u`, hence to nobody else
    obtain ⟨u, hu, hk⟩ := h
    rw [List.countP_flatMap_of_unique hu hn, List.countP_map]
    · exact (List.countP_congr fun x _ => by simp).trans ((hw.nodup u).count.trans (if_pos hk))
    · intro v hv hne d hd
      obtain ⟨k', hk', rfl⟩ := List.mem_map.mp hd
      exact decide_eq_false fun e => hw.disjoint u v k (Ne.symm hne) hk (e ▸ hk')
  · next h =>
    refine List.countP_eq_zero.mpr fun d hd => ?_
    obtain ⟨u, hu, hdu⟩ := List.mem_flatMap.mp hd
    obtain ⟨k', hk', rfl⟩ := List.mem_map.mp hdu
    exact fun e => h ⟨u, hu, of_decide_eq_true e ▸ hk'⟩

/-- **C17 (modulator → clients, exactly once).** Every live connection of every listed user receives exactly one
    MOD_DIRECT frame, every other connection none — however often and wherever a user is repeated in the list. -/
theorem C17_exactly_once (rt : Router) (hw : RouterWF rt) (domain : Str) (targets : List Str) (p : Payload) (k : Nat) :
    copies (routeDirect rt domain targets p) k = if ∃ u ∈ targets, k ∈ connsOf rt u then 1 else 0 := by
  simpa [mem_dedup, routeDirect] using copies_fanout rt hw domain p (dedup targets []) (nodup_dedup _ _) k

/-- **C17 (byte-identical, from the server's domain, nobody else).** -/
theorem C17_faithful (rt : Router) (domain : Str) (targets : List Str) (p : Payload) (d : Delivery)
    (hd : d ∈ routeDirect rt domain targets p) :
    d.payload = p ∧ d.frm = domain ∧ ∃ u ∈ targets, d.conn ∈ connsOf rt u := by
  unfold routeDirect at hd
  obtain ⟨u, hu, hm⟩ := List.mem_flatMap.mp hd
  obtain ⟨k, hk, rfl⟩ := List.mem_map.mp hm
  exact ⟨rfl, rfl, u, ((mem_dedup _ _ _).mp hu).1, hk⟩

/-- the modulator's request is acknowledged with its own id, whatever the targets -/
theorem C17_m2s_ack (rt : Router) (domain : Str) (id : Nat) (targets : List Str) (p : Payload) :
    (m2sDirect rt domain id targets p).2 = id := rfl

/-- **C17 (client direct message).** The modulator is asked exactly when the server has a modulator offering the
    capability and the request is well-formed, and then with the sender's own username and the exact payload; the
    client is acknowledged iff the modulator accepted; without modulator or capability the request is refused with
    UNEXPECTED_MESSAGE and the connection closed. -/
theorem C17_c2s (cfg : Cfg) (user : Str) (id : Option Nat) (p : Payload) (o : Outcome) :
    let r := c2sDirect cfg user id p o
    (∀ i, r.1 = .ack i → id = some i ∧ o = .valid ∧ cfg.hasMod = true ∧ cfg.sendPrivate = true ∧ r.2 = some (user, p)) ∧
    (∀ q, r.2 = some q → q = (user, p) ∧ cfg.hasMod = true ∧ cfg.sendPrivate = true) ∧
    ((cfg.hasMod = false ∨ cfg.sendPrivate = false) → p.length ≤ cfg.maxPayload →
        r = (.error none "UNEXPECTED_MESSAGE" true, none)) ∧
    (cfg.hasMod = true → cfg.sendPrivate = true → p.length ≤ cfg.maxPayload → ∀ i, id = some i → o = .valid → r.1 = .ack i) := by
  simp only [c2sDirect]
  split
  · next hlen => exact ⟨nofun, nofun, fun _ h => absurd h (by omega), fun _ _ h => absurd h (by omega)⟩
  · split
    · next hcap =>
      have hcap : cfg.hasMod = false ∨ cfg.sendPrivate = false := by simpa using hcap
      exact ⟨nofun, nofun, fun _ _ => rfl, fun h1 h2 => by simp [h1, h2] at hcap⟩
    · next hcap =>
      obtain ⟨h1, h2⟩ : cfg.hasMod = true ∧ cfg.sendPrivate = true := by simpa using hcap
      cases id with
      | none => exact ⟨nofun, nofun, by simp [h1, h2], nofun⟩
      | some i => cases o <;> simp [h1, h2]

-- non-vacuity
def exRouter : Router := [(['a'], [1, 4]), (['b'], [2]), (['c'], [3])]

example : RouterWF exRouter := .of_entries (by decide) (by decide)

example : (routeDirect exRouter ['d'] [['a'], ['b'], ['a'], ['z']] [1, 2]).map (·.conn) = [1, 4, 2] := by decide

#print axioms C17_exactly_once
#print axioms C17_faithful
#print axioms C17_m2s_ack
#print axioms C17_c2s

end Narwhal.Direct
