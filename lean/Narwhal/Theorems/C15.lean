import Narwhal.Model.Writer
/-!
# C15 — outbound frames arrive intact and in order; a slow consumer only hurts itself
-/
namespace Narwhal.Writer

theorem total_eq_flatten_length (bufs : List (List Byte)) : total bufs = bufs.flatten.length :=
  List.length_flatten.symm

theorem advance_flatten (bufs : List (List Byte)) (n : Nat) : (advance bufs n).flatten = bufs.flatten.drop n := by
  induction bufs generalizing n with
  | nil => simp [advance]
  | cons b bs ih =>
    simp only [advance, List.flatten_cons]
    split
    · next hge => rw [ih, List.drop_append, List.drop_of_length_le hge, List.nil_append]
    · rw [List.flatten_cons, List.drop_append_of_le_length (by omega)]

theorem advance_total (bufs : List (List Byte)) (n : Nat) : total (advance bufs n) = total bufs - n := by
  rw [total_eq_flatten_length, advance_flatten, total_eq_flatten_length]
  simp

/-- what `advance_slices` leaves never starts with an empty slice: if bytes remain, so do slices with bytes -/
theorem advance_tidy (bufs : List (List Byte)) (n : Nat) : total (advance bufs n) = 0 → advance bufs n = [] := by
  induction bufs generalizing n with
  | nil => intro _; rfl
  | cons b bs ih =>
    simp only [advance]
    split
    · exact ih _
    · next hlt =>
      intro h0
      simp [total, List.sum_cons] at h0
      omega

/-- **whatever the transport accepts, what reached it is a prefix of the batch's bytes, and if
    `write_all_vectored` returns Ok it is all of them — nothing duplicated, dropped or reordered** -/
theorem writeAll_prefix (bufs : List (List Byte)) (accepts : List Nat) :
    ∃ k, (writeAll bufs accepts).1 = bufs.flatten.take k ∧
      ((writeAll bufs accepts).2 = .done → (writeAll bufs accepts).1 = bufs.flatten) := by
  fun_induction writeAll bufs accepts with
  | case1 => exact ⟨0, rfl, fun _ => rfl⟩     -- no slice left
  | case2 => exact ⟨0, by simp, nofun⟩         -- the script of accepted sizes ran out
  | case3 => exact ⟨0, by simp, nofun⟩         -- the transport accepts 0 bytes
  | case4 b bs a as n hn r ih =>               -- `n ≥ 1` bytes are accepted, the loop goes on with the rest
    obtain ⟨k, hk, hdone⟩ := ih
    rw [advance_flatten] at hk hdone
    exact ⟨n + k, by rw [hk, ← List.take_add], fun hd => by rw [hdone hd, List.take_append_drop]⟩

/-- a transport that keeps accepting at least one byte finishes within `total` calls (for slice lists that, like
    every batch laid out by `prepare_iovs`, do not consist of empty slices only) -/
theorem writeAll_terminates (bufs : List (List Byte)) (accepts : List Nat)
    (hpos : ∀ a ∈ accepts, 1 ≤ a) (hlen : total bufs ≤ accepts.length) (htidy : total bufs = 0 → bufs = []) :
    (writeAll bufs accepts).2 = .done := by
  fun_induction writeAll bufs accepts with
  | case1 => rfl                                                             -- no slice left
  | case2 b bs => exact absurd (htidy (by simpa using hlen)) (by simp)       -- the script ran out: not with slices left
  | case3 b bs a as n hn =>                                                  -- 0 bytes accepted: not of a tidy list
    have := hpos a List.mem_cons_self
    have : total (b :: bs) ≠ 0 := fun h => absurd (htidy h) (by simp)
    omega
  | case4 b bs a as n hn r ih =>                                             -- `n ≥ 1` bytes accepted
    refine ih (fun x hx => hpos x (List.mem_cons_of_mem _ hx)) ?_ (advance_tidy _ _)
    rw [advance_total]
    simp only [List.length_cons] at hlen
    omega

/-- a transport that accepts 0 bytes is reported as closed and nothing more is written -/
theorem writeAll_zero_closes (bufs : List (List Byte)) (as : List Nat) (h : total bufs ≠ 0) :
    writeAll bufs (0 :: as) = ([], .closed) := by
  cases bufs with
  | nil => simp [total] at h
  | cons b bs => simp [writeAll]

/-- every batch `prepare_iovs` lays out starts with a non-empty header, so it has bytes whenever it has slices -/
theorem iovs_tidy (batch : List OutFrame) (hh : ∀ f ∈ batch, f.header ≠ []) :
    total (batch.flatMap iovs) = 0 → batch.flatMap iovs = [] := by
  cases batch with
  | nil => intro _; rfl
  | cons f fs =>
    have hl : 0 < f.header.length := List.length_pos_iff.mpr (hh f List.mem_cons_self)
    have : f.header.length ≤ total ((f :: fs).flatMap iovs) := by
      simp only [total_eq_flatten_length, List.flatMap_cons, List.flatten_append, List.length_append, iovs]
      split <;> simp only [List.flatten_cons, List.length_append] <;> omega
    omega

/-- `prepare_iovs` layout: the slices of a batch concatenate to the frames' renderings, in queue order,
    and a batch of `n` frames uses at most `3 n` slices -/
theorem iov_layout (batch : List OutFrame) :
    (batch.flatMap iovs).flatten = (batch.map render).flatten ∧ (batch.flatMap iovs).length ≤ 3 * batch.length := by
  induction batch with
  | nil => simp
  | cons f fs ih =>
    obtain ⟨h1, h2⟩ := ih
    constructor
    · simp only [List.flatMap_cons, List.flatten_append, List.map_cons, List.flatten_cons, h1, render]
    · simp only [List.flatMap_cons, List.length_append, List.length_cons]
      have : (iovs f).length ≤ 3 := by unfold iovs; split <;> simp
      omega

theorem batches_take_flatten (m : Nat) (hm : 0 < m) (fuel : Nat) (q : List OutFrame) (hf : q.length ≤ fuel) (k : Nat) :
    ((batches m fuel q).take k).flatten = q.take (k * m) := by
  induction fuel generalizing q k with
  | zero => simp [batches, List.length_eq_zero_iff.mp (Nat.le_zero.mp hf)]
  | succ fuel ih =>
    cases q with
    | nil => simp [batches]
    | cons x xs =>
      cases k with
      | zero => simp
      | succ k =>
        simp only [batches, Nat.ne_of_gt hm, if_false, List.take_succ_cons, List.flatten_cons]
        rw [ih _ (by simp only [List.length_drop, List.length_cons] at hf ⊢; omega), Nat.add_mul, Nat.one_mul,
          Nat.add_comm, List.take_add]

theorem batches_flatten (m : Nat) (hm : 0 < m) (fuel : Nat) (q : List OutFrame) (hf : q.length ≤ fuel) :
    (batches m fuel q).flatten = q := by
  -- `fuel` rounds are all there are, and `fuel * m` frames are the whole queue
  have hlen : ∀ fuel q, (batches m fuel q).length ≤ fuel := by
    intro fuel q
    fun_induction batches m fuel q with
    | case1 => exact Nat.le_refl 0                           -- no fuel
    | case2 => exact Nat.zero_le _                           -- empty queue
    | case3 => exact Nat.zero_le _                           -- `m = 0`
    | case4 fuel q _ _ ih => exact Nat.succ_le_succ ih       -- one batch, one unit of fuel
  have := batches_take_flatten m hm fuel q hf fuel
  rwa [List.take_of_length_le (hlen fuel q),
    List.take_of_length_le (Nat.le_trans hf (Nat.le_mul_of_pos_right _ hm))] at this

theorem batches_bytes (bs : List (List OutFrame)) :
    (bs.map (fun b => (b.flatMap iovs).flatten)).flatten = (bs.flatten.map render).flatten := by
  induction bs with
  | nil => rfl
  | cons b bs ih => simp only [List.map_cons, List.flatten_cons, List.map_append, List.flatten_append, ih, (iov_layout b).1]

/-- **C15, bytes are frames.** Every batch written to completion delivers exactly the renderings of its
    frames; so over any batching and any pattern of partial writes the peer receives
    `(queue.map render).flatten`. -/
theorem C15_bytes_are_frames (m : Nat) (hm : 0 < m) (q : List OutFrame)
    (accepts : List OutFrame → List Nat)
    (hdone : ∀ b ∈ batches m q.length q, (writeAll (b.flatMap iovs) (accepts b)).2 = .done) :
    ((batches m q.length q).map (fun b => (writeAll (b.flatMap iovs) (accepts b)).1)).flatten = (q.map render).flatten := by
  have hall : ∀ b ∈ batches m q.length q, (writeAll (b.flatMap iovs) (accepts b)).1 = (b.flatMap iovs).flatten :=
    fun b hb => let ⟨_, _, h⟩ := writeAll_prefix (b.flatMap iovs) (accepts b); h (hdone b hb)
  rw [List.map_congr_left hall, batches_bytes, batches_flatten m hm q.length q (Nat.le_refl _)]

/-- **C15, a close never cuts a frame.** Whenever the connection is closed by the server while frames are queued — an
    overflow close, a ping timeout, shutdown — and however far the writer had got, the peer receives the renderings of a
    prefix of the queue, whole frames in order, then the closing frame. -/
theorem C15_close_between_frames (m : Nat) (hm : 0 < m) (q : List OutFrame) (k : Nat) (closing : List Byte) :
    ∃ j, j ≤ q.length ∧ loopOut m q k closing = ((q.take j).map render).flatten ++ closing := by
  refine ⟨min (k * m) q.length, Nat.min_le_right _ _, ?_⟩
  rw [loopOut, batches_bytes, batches_take_flatten m hm q.length q (Nat.le_refl _) k, List.take_eq_take_min]

/-- sending never blocks and never loses silently: the frame is queued, or this connection's close is requested -/
theorem trySend_total (c : ConnQ) (f : OutFrame) :
    (trySend c f = { c with queue := c.queue ++ [f] } ∧ c.queue.length < c.cap) ∨
    (trySend c f = { c with closeReq := true } ∧ c.cap ≤ c.queue.length) := by
  unfold trySend
  split
  · next h => exact Or.inl ⟨rfl, h⟩
  · next h => exact Or.inr ⟨rfl, by omega⟩

/-- the queue never exceeds its capacity -/
theorem trySend_bounded (c : ConnQ) (f : OutFrame) (h : c.queue.length ≤ c.cap) : (trySend c f).queue.length ≤ (trySend c f).cap := by
  unfold trySend
  split
  · simp; omega
  · exact h

/-- **non-interference**: what routing does to connection `j` depends only on `j`'s own queue — a stalled
    receiver `i ≠ j` (whatever its queue holds) changes nothing for `j`, nor for the publisher, whose
    acknowledgement is not a function of any queue. -/
theorem C15_non_interference (cs cs' : List ConnQ) (targets : List Nat) (f : OutFrame) (j : Nat)
    (_hlen : cs.length = cs'.length) (hsame : cs[j]? = cs'[j]?) :
    (route cs targets f)[j]? = (route cs' targets f)[j]? := by
  unfold route
  simp only [List.getElem?_mapIdx]
  rw [hsame]

/-- a full queue closes that connection and only that one -/
theorem C15_overflow_closes_self (cs : List ConnQ) (targets : List Nat) (f : OutFrame) (j : Nat) (c : ConnQ)
    (hj : cs[j]? = some c) :
    (route cs targets f)[j]? =
      some (if j ∈ targets then (if c.queue.length < c.cap then { c with queue := c.queue ++ [f] } else { c with closeReq := true }) else c) := by
  unfold route
  simp only [List.getElem?_mapIdx, hj, Option.map_some, trySend]

-- non-vacuity
example : (writeAll [[1, 2, 3], [4], [10]] [2, 1, 5]) = ([1, 2, 3, 4, 10], .done) := by decide

end Narwhal.Writer

#print axioms Narwhal.Writer.writeAll_prefix
#print axioms Narwhal.Writer.writeAll_terminates
#print axioms Narwhal.Writer.iov_layout
#print axioms Narwhal.Writer.C15_bytes_are_frames
#print axioms Narwhal.Writer.trySend_total
#print axioms Narwhal.Writer.C15_non_interference
#print axioms Narwhal.Writer.C15_overflow_closes_self
#print axioms Narwhal.Writer.C15_close_between_frames
