import Narwhal.Lemmas.Handlers
import Narwhal.Lemmas.Views
import Narwhal.Lemmas.Ranges
/-!
# C06 — nothing acts before the handshake; C09 — modulator auth is fail-closed; C07 — identities

C2S part, on the sequential server model.  (S2M / M2S: the `Generated/Dispatch.lean` table obligations are in `C06Links.lean`.)
-/
namespace Narwhal.Server

def Phase.rank : Phase → Nat
  | .connecting => 0 | .connected => 1 | .authed _ => 2

/-- **C06, connecting phase**: anything but a version-1 CONNECT gets one ERROR and the connection is
    closed; channels, index and router are untouched and nobody else is sent anything. -/
theorem C06_connecting_inert (s : Srv) (k : Nat) (c : Conn) (r : Req) (env : Env)
    (hc : findConn s.conns k = some c) (hp : c.phase = .connecting) :
    (∃ hb, r = .connect 1 hb ∧ (connectingStep s k r env).1 = setPhase s k .connected ∧
        ∃ f, (connectingStep s k r env).2 = [{ conn := k, frame := f }]) ∨
    (∃ reason, reason.recoverable = false ∧
        connectingStep s k r env = (withoutConn s k, [{ conn := k, frame := .error none reason, close := true }])) := by
  refine connectingStep_cases s k env ?_ ?_ r
  · intro r reason hr
    refine Or.inr ⟨reason, hr, ?_⟩
    rw [fail_preauth s k none reason env (phaseOf_eq_some.mpr ⟨c, hc, hp⟩) nofun, hr]; rfl
  · exact fun hb => Or.inl ⟨hb, rfl, rfl, _, rfl⟩

theorem withoutConn_frames (s : Srv) (k : Nat) :
    (withoutConn s k).chans = s.chans ∧ (withoutConn s k).index = s.index ∧ (withoutConn s k).router = s.router := ⟨rfl, rfl, rfl⟩

theorem setPhase_frames (s : Srv) (k : Nat) (p : Phase) :
    (setPhase s k p).chans = s.chans ∧ (setPhase s k p).index = s.index ∧ (setPhase s k p).router = s.router := ⟨rfl, rfl, rfl⟩

/-- **C06, connected phase**: only IDENTIFY (auth off) or AUTH (auth on) can do anything; every other frame
    — any channel operation, publish, direct message, repeated CONNECT — closes the connection with an
    ERROR and changes nothing else. -/
theorem C06_connected_inert (s : Srv) (k : Nat) (c : Conn) (r : Req) (env : Env)
    (hc : findConn s.conns k = some c) (hp : c.phase = .connected)
    (hr : (∀ n, r ≠ .identify n) ∧ (∀ t, r ≠ .auth t)) :
    connectedStep s k r env = (withoutConn s k, [{ conn := k, frame := .error none .unexpectedMessage, close := true }]) := by
  rw [connectedStep_unexpected s k env (fun n e => absurd e (hr.1 n)) (fun t e => absurd e (hr.2 t))]
  exact fail_preauth s k none _ env (phaseOf_eq_some.mpr ⟨c, hc, hp⟩) nofun

/-- handshake steps never touch channels or the membership index, whatever they are sent -/
theorem C06_handshake_no_channel_effect (s : Srv) (k : Nat) (c : Conn) (r : Req) (env : Env)
    (hc : findConn s.conns k = some c) (hp : ∀ u, c.phase ≠ .authed u) :
    (connectingStep s k r env).1.chans = s.chans ∧ (connectingStep s k r env).1.index = s.index ∧
    (connectedStep s k r env).1.chans = s.chans ∧ (connectedStep s k r env).1.index = s.index := by
  have hf : ∀ reason, (fail s k none reason env).1.chans = s.chans ∧ (fail s k none reason env).1.index = s.index := by
    intro reason
    rw [fail_preauth s k none reason env (phaseOf_eq_some.mpr ⟨c, hc, rfl⟩) hp]
    cases reason.recoverable <;> exact ⟨rfl, rfl⟩
  have h1 : (connectingStep s k r env).1.chans = s.chans ∧ (connectingStep s k r env).1.index = s.index :=
    connectingStep_cases s k env (fun _ reason _ => hf reason) (fun _ => ⟨rfl, rfl⟩) r
  have h2 : (connectedStep s k r env).1.chans = s.chans ∧ (connectedStep s k r env).1.index = s.index :=
    connectedStep_cases s k env (fun _ => hf) (fun _ _ _ _ _ => ⟨rfl, rfl⟩) (fun _ _ _ _ _ _ => ⟨rfl, rfl⟩)
      (fun _ _ _ _ _ => ⟨rfl, rfl⟩) (fun _ _ _ _ => ⟨rfl, rfl⟩) r
  exact ⟨h1.1, h1.2, h2.1, h2.2⟩

/-- **C06, authenticated is terminal**: CONNECT, IDENTIFY and AUTH are refused (UNEXPECTED_MESSAGE, close)
    once authenticated — a connection can never re-identify or change identity. -/
theorem C06_authed_terminal (s : Srv) (k : Nat) (u : Str) (env : Env) :
    (∀ v hb, authedStep s k u (.connect v hb) env = fail s k none .unexpectedMessage env) ∧
    (∀ n, authedStep s k u (.identify n) env = fail s k none .unexpectedMessage env) ∧
    (∀ t, authedStep s k u (.auth t) env = fail s k none .unexpectedMessage env) := ⟨fun _ _ => rfl, fun _ => rfl, fun _ => rfl⟩

/-- **C09.** With modulator auth, a connection in the connected phase becomes authenticated in a step only
    if that step handled an AUTH on *this* connection and the modulator's outcome for it was `success u`;
    the identity is then exactly `u` and the acknowledgement names `u@domain`.  Failure, challenge and
    error outcomes leave the phase as it was (or end the connection). -/
theorem C09_auth_only_on_success (s : Srv) (k : Nat) (c : Conn) (r : Req) (env : Env) (u : Str)
    (hauth : s.cfg.authRequired = true) (hc : findConn s.conns k = some c) (hp : c.phase = .connected)
    (hres : phaseOf (connectedStep s k r env).1 k = some (.authed u)) :
    (∃ t, r = .auth t) ∧ env.auth = .success u ∧ u ≠ [] ∧
      (connectedStep s k r env).2 = [{ conn := k, frame := .authAck none (some true) (some (fullNid s u)) }] ∧
      env.down = false := by
  have hnow : phaseOf s k = some .connected := phaseOf_eq_some.mpr ⟨c, hc, hp⟩
  revert hres
  refine connectedStep_cases s k env ?refused ?identify ?accepted ?challenged ?denied r
  case refused =>
    -- the connection is as it was, or gone
    intro r reason
    rw [fail_preauth s k none reason env hnow nofun]
    cases reason.recoverable
    · exact fun h => nomatch ((phaseOf_withoutConn s k k).trans (if_pos rfl)).symm.trans h
    · exact fun h => nomatch hnow.symm.trans h
  case identify => intro raw u' ha; rw [hauth] at ha; cases ha
  case accepted =>
    intro t u' _ hd hs hne h
    rw [phaseOf_register, if_pos rfl, hnow] at h
    cases h
    exact ⟨⟨t, rfl⟩, hs, hne, rfl, hd⟩
  case challenged => exact fun t ch _ _ _ h => nomatch hnow.symm.trans h
  case denied => exact fun t _ _ _ h => nomatch hnow.symm.trans h

/-- **C09.** IDENTIFY is refused when the modulator authenticates -/
theorem C09_identify_refused (s : Srv) (k : Nat) (n : Str) (env : Env) (hauth : s.cfg.authRequired = true) :
    connectedStep s k (.identify n) env = fail s k none .unexpectedMessage env :=
  connectedStep_unexpected s k env (fun _ _ => hauth) nofun

open Narwhal.Generated in
/-- no whitespace code point and not `'@'` is alphanumeric: the table fact `Id.not_alnum` -/
theorem whitespace_not_alnum : (whitespaceCodes.all (fun w => !Id.inRanges alnumRanges w)) = true ∧
    Id.inRanges alnumRanges 64 = false :=
  ⟨List.all_eq_true.mpr fun w hw => by rw [Id.not_alnum (List.mem_cons_of_mem _ hw)]; rfl, Id.not_alnum List.mem_cons_self⟩

/-- **C07 well-formedness.** Whatever bytes a client puts in IDENTIFY, an assigned username is non-empty and
    contains neither whitespace nor `'@'`; the NID is that username at the server's domain. -/
theorem C07_nid_wellformed (raw dom : Str) (u : Str) (h : Id.identifyUsername raw dom = some u) :
    u ≠ [] ∧ ∀ c ∈ u, Id.isWhitespace c = false ∧ c ≠ '@' := by
  unfold Id.identifyUsername at h
  simp only at h
  split at h
  · cases h
  · next hne =>
    split at h
    · next hv =>
      cases h
      refine ⟨by intro h0; simp [h0] at hne, ?_⟩
      intro c hc
      unfold Id.validNidParts at hv
      simp only [Bool.and_eq_true] at hv
      exact usernameChar_ok c ((List.all_eq_true.mp hv.1.2) c hc)
    · cases h

/-- **C07 uniqueness.** Without modulator auth an IDENTIFY is acknowledged only for a name that no live
    connection holds at that moment (and it then holds it alone). -/
theorem C07_identify_exclusive (s : Srv) (k : Nat) (raw : Str) (env : Env) (e : Emit)
    (he : e ∈ (connectedStep s k (.identify raw) env).2) (nid : Str) (hf : e.frame = .identifyAck nid) :
    s.cfg.authRequired = false ∧ ∃ u, Id.identifyUsername raw s.cfg.domain = some u ∧ connsOf s u = [] ∧
      nid = fullNid s u ∧ (connectedStep s k (.identify raw) env).1 = register s k u := by
  generalize hr : Req.identify raw = r at he ⊢
  revert hr he
  refine connectedStep_cases s k env ?refused ?identify ?accepted ?challenged ?denied r
  case refused =>
    -- a refusal queues an ERROR and EVENTs, no IDENTIFY_ACK
    intro _ reason _ he
    rcases mem_fail he with h | h
    · rw [hf] at h; cases h
    · have := h.1; rw [hf] at this; cases this
  case identify =>
    intro raw' u ha hu hfree hr he
    cases hr
    rw [List.mem_singleton] at he; subst he
    cases hf
    exact ⟨ha, u, hu, hfree, rfl, rfl⟩
  case accepted => exact fun _ _ _ _ _ _ hr => nomatch hr
  case challenged => exact fun _ _ _ _ _ hr => nomatch hr
  case denied => exact fun _ _ _ _ hr => nomatch hr

end Narwhal.Server

#print axioms Narwhal.Server.C06_connecting_inert
#print axioms Narwhal.Server.C06_connected_inert
#print axioms Narwhal.Server.C06_handshake_no_channel_effect
#print axioms Narwhal.Server.C06_authed_terminal
#print axioms Narwhal.Server.C09_auth_only_on_success
#print axioms Narwhal.Server.C09_identify_refused
#print axioms Narwhal.Server.C07_nid_wellformed
#print axioms Narwhal.Server.C07_identify_exclusive
#print axioms Narwhal.Server.whitespace_not_alnum
