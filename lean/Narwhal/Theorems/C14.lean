import Narwhal.Lemmas.Checks
import Narwhal.Lemmas.Invariants
/-!
# C14 — configured limits are enforced (channel-manager part)

Admission theorems, for every state and every limit value (0 and 1 included): a request is admitted only
while the limit still has room *in the pre-state*, so the count after the request never exceeds the limit.
Connection and in-flight admission and the release of their slots are `C14Limits.lean` (`Model/Limits.lean`, tied by the
`limits` correspondence suite); that a user's subscriptions come back when the user goes is the content of `C05`'s
clean-up theorems.
-/
namespace Narwhal.Server

/-- JOIN is admitted only below max_clients, below the joiner's max_subscriptions, and — when it creates
    the channel — below max_channels -/
theorem C14_join_admission (s : Srv) (u : Str) (id : Nat) (raw : Str) (ob : Option Str) (h m : Str)
    (hc : joinCheck s u id raw ob = .ok (h, m)) :
    (chanOrNew s h).members.length < (chanOrNew s h).maxClients ∧
      (indexOf s m).length < s.cfg.maxSubs ∧
      ((findChan s.chans h).isNone = true → s.chans.length < s.cfg.maxChannels) := by
  have ok := joinCheck_checked.ok hc
  exact ⟨ok.clients, ok.subs, ok.newChan⟩

/-- after an admitted JOIN the channel holds at most max_clients members -/
theorem C14_members_after_join (s : Srv) (u : Str) (id : Nat) (raw : Str) (ob : Option Str) (h m : Str)
    (hc : joinCheck s u id raw ob = .ok (h, m)) :
    (withMember s.cfg.domain (chanOrNew s h) m).members.length ≤ (withMember s.cfg.domain (chanOrNew s h) m).maxClients := by
  rw [withMember_members, withMember_maxClients, List.length_append]
  exact (C14_join_admission s u id raw ob h m hc).1

/-- SET_CHAN_CONFIG never raises a channel's settings above the server's caps -/
theorem C14_config_caps (s : Srv) (u : Str) (id : Nat) (raw : Str) (mc mp : Nat) (c : Chan)
    (hc : setConfigCheck s u id raw mc mp = .ok c)
    (hold : c.maxClients ≤ s.cfg.maxClients ∧ c.maxPayload ≤ s.cfg.maxPayload) :
    (mergeConfig c mc mp).maxClients ≤ s.cfg.maxClients ∧ (mergeConfig c mc mp).maxPayload ≤ s.cfg.maxPayload := by
  obtain ⟨_, h1, h2⟩ := setConfigCheck_checked.ok hc
  unfold mergeConfig
  constructor
  · simp only; split <;> omega
  · simp only; split <;> omega

/-- an accepted SET_CHAN_ACL leaves at most max_clients entries (users and bare domains) in the list -/
theorem C14_acl_cap (s : Srv) (u : Str) (id : Nat) (raw : Str) (t : AclType) (a : AclAction) (ns : List Str) (c : Chan)
    (hc : setAclCheck s u id raw t a ns = .ok c) :
    Acl.totalEntries (updatedAcl c t a ns) ≤ c.maxClients := (setAclCheck_checked.ok hc).2

/-- an accepted BROADCAST is within the server's and the channel's payload limits -/
theorem C14_payload_caps (s : Srv) (u : Str) (id : Nat) (raw : Str) (q : Option Nat) (p : Payload) (env : Env)
    (c : Chan) (p' : Payload) (hc : broadcastCheck s u id raw q p env = .ok (c, p')) :
    p.length ≤ s.cfg.maxPayload ∧ p'.length ≤ c.maxPayload := by
  have ok := broadcastCheck_checked.ok hc
  exact ⟨ok.size, ok.chanSize⟩

end Narwhal.Server

#print axioms Narwhal.Server.C14_join_admission
#print axioms Narwhal.Server.C14_members_after_join
#print axioms Narwhal.Server.C14_config_caps
#print axioms Narwhal.Server.C14_acl_cap
#print axioms Narwhal.Server.C14_payload_caps
