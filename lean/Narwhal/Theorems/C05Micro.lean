import Narwhal.Lemmas.Micro
import Narwhal.Generated.Steps
/-!
# C05 (and C01, C02, C18 through it): the membership views under every interleaving

For every schedule of JOIN / LEAVE / on-behalf requests and disconnect clean-ups cut at their suspension points, every outcome
of every modulator notification, and every cancellation of a suspended request: the invariant `Inv` holds in every reachable
state, and whenever nothing is in progress the CHANNELS and MEMBERS listings agree and no channel is empty.

The same statement is *false* for the re-check `join_channel` made before repair a26f788 (`old_recheck_breaks_views`, a
13-step schedule replayed on the real code by `nvh probe_stale`).
-/
namespace Narwhal.Micro

/-- **C05, every interleaving.** Whatever requests (JOIN, LEAVE, on-behalf JOIN / LEAVE) and disconnect clean-ups are started,
    however their segments interleave, whatever each modulator notification answers and whichever suspended requests are
    cancelled: the invariant holds in every reachable state. -/
theorem C05_micro_invariant (ls : List Label) : Inv (run (init true) ls) :=
  inv_run (init true) rfl (inv_init true) ls

/-- **C05 at quiescence.** When no request and no clean-up is in progress, `n` is in `u`'s CHANNELS listing iff `u` is in the
    MEMBERS listing of `n`, and no channel without members exists. -/
theorem C05_views_agree_at_quiescence (ls : List Label) (hq : Quiescent (run (init true) ls)) :
    ViewsAgree (run (init true) ls) ∧
    ∀ n o, (run (init true) ls).map n = some o → ((run (init true) ls).objs o).members ≠ [] := by
  have h := C05_micro_invariant ls
  exact ⟨fun u n => ⟨h.idx_mem u n, fun ⟨o, hm, hu⟩ => (h.mem_idx n o u hm hu).resolve_right hq.no_debt⟩,
    fun n o hm => h.nonempty n o hm nofun⟩

/-- a member of a channel that no clean-up is responsible for any more is in the index: in particular a request that is
    cancelled while suspended (connection closed, `request_timeout`) never leaves a membership the disconnect clean-up
    cannot find — at *every* moment, not only at quiescence -/
theorem C05_no_orphan_membership (ls : List Label) (n : Name) (o : Nat) (u : User)
    (hm : (run (init true) ls).map n = some o) (hu : u ∈ ((run (init true) ls).objs o).members) :
    n ∈ (run (init true) ls).index u ∨ debt (run (init true) ls) u n o :=
  (C05_micro_invariant ls).mem_idx n o u hm hu

/-- an object that is not (any longer) the map's entry for its name has no members: whoever locks a removed channel finds
    it empty, so nothing can be joined to or delivered through it -/
theorem C05_removed_channel_is_empty (ls : List Label) (o : Nat)
    (h : (run (init true) ls).map ((run (init true) ls).objs o).name ≠ some o) : ((run (init true) ls).objs o).members = [] :=
  Classical.byContradiction fun hne => h ((C05_micro_invariant ls).stale_empty o hne)

open Narwhal.Generated in
/-- table obligation (regenerated from the source on every run): in `join_channel` the post-lock re-check is by identity, member
    and index entry are written in one segment before the notification and rolled back together; in `leave_channel` member and
    index entry are removed (and an empty channel dropped) in one segment between the two notifications; `leave_all_channels`
    takes the index entry first and never stops at a failure -/
theorem steps_table_ok :
    joinRecheckIdentity = true ∧ joinWritesBeforeNotify = true ∧ joinRollbackComplete = true ∧
    joinRefusalRemovesEmpty = true ∧ leaveWritesInOneSegment = true ∧ leaveCleanupIgnoresFailure = true ∧
    leaveAllTakesIndexFirst = true := by decide

open Narwhal.Generated in
/-- **C05 for the code as it is now**: the model instantiated with the re-check the source actually contains -/
theorem C05_micro_invariant_code (ls : List Label) : Inv (run (init joinRecheckIdentity) ls) := by
  rw [steps_table_ok.1]; exact C05_micro_invariant ls

/-- bob (1) is the only member of channel 0 and leaves; his LEAVE is suspended in the modulator while carol's (2) JOIN waits for
    the channel's lock; the LEAVE completes and removes the channel; dave (3) creates it anew; then carol's JOIN runs. -/
def staleSchedule : List Label :=
  [.spawn 0 .join 1 0, .run 0 {}, .run 0 {},
   .spawn 0 (.leave true) 1 0, .run 0 {},
   .spawn 1 .join 2 0, .run 1 {},
   .run 0 {},
   .spawn 2 .join 3 0, .run 2 {}, .run 2 {},
   .run 1 {}, .run 1 {}]

/-- **the re-check before a26f788 breaks C05**: after the schedule nothing is in progress, carol's CHANNELS listing contains
    the channel, and the channel's MEMBERS listing (the object the map holds) does not contain carol. -/
theorem old_recheck_breaks_views :
    let s := run (init false) staleSchedule
    (∀ t < 3, (s.tasks t).pc = .done) ∧ s.rests = [] ∧ (0 : Name) ∈ s.index 2 ∧
      ∃ o, s.map 0 = some o ∧ 2 ∉ (s.objs o).members ∧ 3 ∈ (s.objs o).members := by
  refine ⟨by decide, by decide, by decide, 1, by decide, by decide, by decide⟩

/-- with the repaired re-check the same schedule ends with carol refused and the views in agreement -/
example :
    let s := run (init true) staleSchedule
    s.index 2 = [] ∧ s.index 3 = [0] ∧ s.map 0 = some 1 ∧ (s.objs 1).members = [3] ∧ (s.objs 0).members = [] := by decide

end Narwhal.Micro

#print axioms Narwhal.Micro.C05_micro_invariant
#print axioms Narwhal.Micro.C05_views_agree_at_quiescence
#print axioms Narwhal.Micro.C05_no_orphan_membership
#print axioms Narwhal.Micro.C05_removed_channel_is_empty
#print axioms Narwhal.Micro.old_recheck_breaks_views
#print axioms Narwhal.Micro.steps_table_ok
#print axioms Narwhal.Micro.C05_micro_invariant_code
