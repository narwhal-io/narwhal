import Narwhal.Lemmas.Handlers
import Narwhal.Lemmas.Views
/-!
# C01 — broadcast confinement; C02 — completeness; C08 — modulator payload gate

All three are statements about what `doBroadcast` queues.  `deliveries` is the *only* source of MESSAGE
frames in the model (`message_only_from_broadcast`), so confinement over whole histories follows from
the per-step statements plus the cache clause of `ChanOK` (`targets` = read-permitted members), which `reachable_ChansOK`
(`Lemmas/Views.lean`) gives of every reachable state.
-/
namespace Narwhal.Server
open Narwhal.Acl (isAllowed)

def closedWithErrorId (k id : Nat) (out : List Emit) : Prop :=
  ∃ e ∈ out, e.conn = k ∧ e.close = true ∧ ∃ r, e.frame = .error (some id) r

/-- the BROADCAST_ACK is sent iff the check passed, and then the MESSAGE frames are exactly `deliveries` -/
theorem C02_ack_iff_delivered (s : Srv) (k : Nat) (u : Str) (id : Nat) (raw : Str) (q : Option Nat) (p : Payload)
    (env : Env) :
    (∃ c p', broadcastCheck s u id raw q p env = .ok (c, p') ∧
        (doBroadcast s k u id raw q p env).1 = s ∧
        ((doBroadcast s k u id raw q p env).2 = { conn := k, frame := .broadcastAck id } :: deliveries s k u raw c p' ∨
         (doBroadcast s k u id raw q p env).2 = deliveries s k u raw c p' ++ [{ conn := k, frame := .broadcastAck id }])) ∨
    (∃ e, broadcastCheck s u id raw q p env = .error e ∧ doBroadcast s k u id raw q p env = fail s k e.1 e.2 env) := by
  rcases hc : broadcastCheck s u id raw q p env with e | ⟨c, p'⟩
  · exact Or.inr ⟨e, rfl, doBroadcast_refused hc⟩
  · refine Or.inl ⟨c, p', rfl, ?_⟩
    rw [doBroadcast_admitted hc]
    split
    · exact ⟨rfl, Or.inl rfl⟩
    · exact ⟨rfl, Or.inr rfl⟩

theorem broadcast_messages (s : Srv) (k : Nat) (u : Str) (id : Nat) (raw : Str) (q : Option Nat) (p : Payload)
    (env : Env) (e : Emit) (he : e ∈ (doBroadcast s k u id raw q p env).2) (hm : e.frame.isMessage = true) :
    ∃ c p', BroadcastAdmitted s u raw p env c p' ∧ e ∈ deliveries s k u raw c p' := by
  rcases C02_ack_iff_delivered s k u id raw q p env with ⟨c, p', hc, _, hout⟩ | ⟨x, _, hout⟩
  · -- acknowledged: `e` is not the ack, so it is one of the deliveries
    refine ⟨c, p', broadcastCheck_checked.ok hc, ?_⟩
    rcases hout with hout | hout <;> rw [hout] at he
    · rcases List.mem_cons.mp he with rfl | he
      · cases hm
      · exact he
    · rcases List.mem_append.mp he with he | he
      · exact he
      · rw [List.mem_singleton] at he; subst he; cases hm
  · -- refused: an ERROR and clean-up EVENTs
    rw [hout] at he
    rcases mem_fail he with hf | h
    · rw [hf] at hm; cases hm
    · rw [(Frame.of_isEvent h.1).2] at hm; cases hm

/-- **C01 (one step).** Every MESSAGE a BROADCAST produces: goes to a connection other than the sender's,
    of a user in the channel's reader list; carries the sender's own NID, the channel named in the request
    and the accepted payload; and the publisher is a member permitted by the publish list. -/
theorem C01_confinement_step (s : Srv) (k : Nat) (u : Str) (id : Nat) (raw : Str) (q : Option Nat) (p : Payload)
    (env : Env) (e : Emit) (he : e ∈ (doBroadcast s k u id raw q p env).2) (hm : e.frame.isMessage = true) :
    ∃ h c p' t, Id.parseChannelId raw = some (h, s.cfg.domain) ∧ findChan s.chans h = some c ∧
      u ∈ c.members ∧ isAllowed c.publishAcl u s.cfg.domain = true ∧
      t ∈ c.targets ∧ e.conn ∈ connsOf s t ∧ e.conn ≠ k ∧
      e.frame = .message (fullNid s u) raw p' ∧ payloadGate s p env = .ok p' := by
  obtain ⟨c, p', ok, hd⟩ := broadcast_messages s k u id raw q p env e he hm
  obtain ⟨h, hp, hf⟩ := ok.chan
  obtain ⟨hfr, _, hne, t, ht, hconn⟩ := routeTo_mem hd
  exact ⟨h, c, p', t, hp, hf, ok.member, ok.publish, ht, hconn, fun hk => hne (by rw [hk]), hfr, ok.gate⟩

/-- with the cache invariant: the receiving user is a current member permitted by the read list -/
theorem C01_confinement_members (s : Srv) (hinv : ChansOK s) (k : Nat) (u : Str) (id : Nat) (raw : Str)
    (q : Option Nat) (p : Payload) (env : Env) (e : Emit) (he : e ∈ (doBroadcast s k u id raw q p env).2)
    (hm : e.frame.isMessage = true) :
    ∃ h c t, Id.parseChannelId raw = some (h, s.cfg.domain) ∧ findChan s.chans h = some c ∧
      t ∈ c.members ∧ isAllowed c.readAcl t s.cfg.domain = true ∧ e.conn ∈ connsOf s t ∧
      u ∈ c.members ∧ isAllowed c.publishAcl u s.cfg.domain = true := by
  obtain ⟨h, c, p', t, hp, hf, hmem, hpub, ht, hconn, _, _, _⟩ := C01_confinement_step s k u id raw q p env e he hm
  have hc := (hinv h c hf).2.1
  rw [hc] at ht
  simp only [List.mem_filter] at ht
  exact ⟨h, c, t, hp, hf, ht.1, ht.2, hconn, hmem, hpub⟩

/-- **C01 over every history**: in any state reachable from `init` by any history (any modulator outcomes,
    any owner picks), a BROADCAST's MESSAGEs go only to connections of *current members permitted by the
    read list*, from a publisher who is a *current member permitted by the publish list*. -/
theorem C01_confinement (cfg : Cfg) (hist : List (Op × Env)) (k : Nat) (u : Str) (id : Nat) (raw : Str)
    (q : Option Nat) (p : Payload) (env : Env) (e : Emit)
    (he : e ∈ (doBroadcast (run (init cfg) hist).1 k u id raw q p env).2) (hm : e.frame.isMessage = true) :
    ∃ h c t, Id.parseChannelId raw = some (h, (run (init cfg) hist).1.cfg.domain) ∧
      findChan (run (init cfg) hist).1.chans h = some c ∧
      t ∈ c.members ∧ isAllowed c.readAcl t (run (init cfg) hist).1.cfg.domain = true ∧
      e.conn ∈ connsOf (run (init cfg) hist).1 t ∧
      u ∈ c.members ∧ isAllowed c.publishAcl u (run (init cfg) hist).1.cfg.domain = true :=
  C01_confinement_members _ (reachable_ChansOK cfg hist) k u id raw q p env e he hm

/-- no other request kind produces a MESSAGE -/
theorem message_only_from_broadcast (s : Srv) (k : Nat) (u : Str) (r : Req) (env : Env) (e : Emit)
    (he : e ∈ (authedStep s k u r env).2) (hm : e.frame.isMessage = true) :
    ∃ id raw q p, r = .broadcast id raw q p :=
  (authedStep_settled s k u r env).message he hm

/-- **C02 exactly once**: a connection `k' ≠ k` registered for exactly one reader `t` (and once) receives exactly one MESSAGE. -/
theorem C02_exactly_once (s : Srv) (k : Nat) (u : Str) (raw : Str) (c : Chan) (p' : Payload) (k' : Nat) (t : Str)
    (hk : k' ≠ k) (ht : t ∈ c.targets) (hnodup : c.targets.Nodup)
    (honce : ((connsOf s t).filter (· = k')).length = 1)
    (hother : ∀ t' ∈ c.targets, t' ≠ t → k' ∉ connsOf s t') :
    ((deliveries s k u raw c p').filter (fun e => e.conn = k')).length = 1 :=
  routeTo_once s c.targets (some k) _ k' t (fun h => hk (Option.some.inj h)) ht hnodup honce hother

/-- **C08.** With a modulator: any MESSAGE of a BROADCAST step carries exactly the payload the modulator
    declared valid *for this request* (the altered one if it altered), and a rejected / failed validation
    or a lost modulator link produces no MESSAGE at all, only the ERROR with the broadcast's id (which closes the publisher). -/
theorem C08_gate (s : Srv) (hmod : s.cfg.hasMod = true) (k : Nat) (u : Str) (id : Nat) (raw : Str) (q : Option Nat)
    (p : Payload) (env : Env) :
    (∀ e ∈ (doBroadcast s k u id raw q p env).2, e.frame.isMessage = true →
        (env.verdict = .valid ∧ ∃ f c, e.frame = .message f c p) ∨
        (∃ p', env.verdict = .altered p' ∧ ∃ f c, e.frame = .message f c p')) ∧
    ((env.verdict = .invalid ∨ env.verdict = .failed ∨ env.down = true ∨ env.verdict = .altered []) →
        (∀ e ∈ (doBroadcast s k u id raw q p env).2, e.frame.isMessage = false) ∧
        (closedWithErrorId k id (doBroadcast s k u id raw q p env).2 ∨ p.isEmpty = true ∨ q.any (· > 1) = true ∨ id = 0
          ∨ p.length > s.cfg.maxPayload ∨ Id.parseChannelId raw = none)) := by
  constructor
  · intro e he hm
    obtain ⟨c, p', ok, hd⟩ := broadcast_messages s k u id raw q p env e he hm
    have hfr := (routeTo_mem hd).1
    rcases payloadGate_ok ok.gate with ⟨hno, _⟩ | ⟨_, _, ⟨hv, hpp⟩ | ⟨hv, _⟩⟩
    · rw [hmod] at hno; cases hno
    · subst hpp; exact Or.inl ⟨hv, _, _, hfr⟩
    · exact Or.inr ⟨p', hv, _, _, hfr⟩
  · intro hbad
    obtain ⟨r, hg⟩ := payloadGate_refuses (p := p) hmod hbad
    constructor
    · intro e he
      cases hm : e.frame.isMessage
      · rfl
      · obtain ⟨_, _, ok, _⟩ := broadcast_messages s k u id raw q p env e he hm
        exact nomatch hg.symm.trans ok.gate
    · refine (broadcastCheck_of_gate_error (u := u) (i := id) (raw := raw) (q := q) hg).imp_left fun hc => ?_
      rw [doBroadcast_refused hc, fail_closes s k _ env (payloadGate_error_closes hg)]
      exact ⟨_, List.mem_cons_self, rfl, rfl, r, rfl⟩

/-- **C08 / C02: every MESSAGE of a BROADCAST carries a non-empty payload** — so it can always be serialised (a MESSAGE's
    `length` must be non-zero): an alteration to nothing is refused at the gate instead of tearing down the subscribers -/
theorem C08_message_payload_nonempty (s : Srv) (k : Nat) (u : Str) (id : Nat) (raw : Str) (q : Option Nat) (p : Payload)
    (env : Env) (e : Emit) (he : e ∈ (doBroadcast s k u id raw q p env).2) (f c : Str) (p' : Payload)
    (hfr : e.frame = .message f c p') : p' ≠ [] := by
  have hm : e.frame.isMessage = true := by rw [hfr]; rfl
  obtain ⟨cc, p'', ok, hd⟩ := broadcast_messages s k u id raw q p env e he hm
  obtain ⟨hfr', _⟩ := routeTo_mem hd
  rw [hfr] at hfr'
  cases hfr'
  exact payloadGate_nonempty ok.gate ok.nonempty

end Narwhal.Server

#print axioms Narwhal.Server.C01_confinement_step
#print axioms Narwhal.Server.C01_confinement_members
#print axioms Narwhal.Server.C01_confinement
#print axioms Narwhal.Server.message_only_from_broadcast
#print axioms Narwhal.Server.C02_ack_iff_delivered
#print axioms Narwhal.Server.C02_exactly_once
#print axioms Narwhal.Server.C08_gate
#print axioms Narwhal.Server.C08_message_payload_nonempty
