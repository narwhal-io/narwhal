import Narwhal.Model.MicroL
import Narwhal.Lemmas.Micro
import Narwhal.Generated.Steps
/-!
# C05 / C01 with connections: no member without a live connection except what a running clean-up still owes;
a name that can be identified again has no memberships
-/
namespace Narwhal.MicroL
open Narwhal.Micro

/-- `dead_idx`: the clean-up takes the whole index entry in the step that ends liveness, and `gate` lets a JOIN add to it only for
    a live user.  With `mem_idx` of `Inv` this makes every member live or owed to a clean-up (`C05_micro_no_ghost_member`). -/
structure LInv (s : St) : Prop where
  strict   : s.base.strict = true
  inv      : Micro.Inv s.base
  dead_idx : ∀ u, s.live u = false → s.base.index u = []

theorem linv_stepBase (s : St) (h : LInv s) (l : Micro.Label) : LInv (stepBase s l) := by
  obtain ⟨hs, hi, hd⟩ := h
  have hb : (stepBase s l).base = Micro.step s.base (gate s l) := by cases l <;> rfl
  refine ⟨hb ▸ (step_strict ..).trans hs, hb ▸ inv_step _ hs hi _, fun i hl => List.eq_nil_iff_forall_not_mem.mpr fun x hx => ?_⟩
  rw [hb] at hx
  by_cases hc : l = .cleanup i
  · subst hc
    simp [gate, Micro.step] at hx
  · -- any other step leaves `live i` as it was, and adds an entry only for a live user (`gate`)
    have hl' : s.live i = false := by
      cases l with
      | cleanup u => simpa [stepBase, show i ≠ u from fun e => hc (e ▸ rfl)] using hl
      | _ => exact hl
    rcases (step_keeps s.base (gate s l)).index i x hx with h1 | ⟨ha, hu⟩
    · rw [hd i hl'] at h1; cases h1
    · cases l with
      | run t e =>
        have ha : (e.accept && s.live (s.base.tasks t).m) = true := ha
        rw [← show i = (s.base.tasks t).m from hu, hl', Bool.and_false] at ha
        cases ha
      | _ => cases ha

theorem linv_reach (s : St) (h : Reach s) : LInv s := by
  induction h with
  | init => exact ⟨rfl, inv_init true, fun _ _ => rfl⟩
  | base s l _ ih => exact linv_stepBase s ih l
  | connect s u _ hl hc ih =>
    obtain ⟨hs, hi, hd⟩ := ih
    refine ⟨hs, hi, ?_⟩
    intro i hli
    simp only at hli
    split at hli
    · cases hli
    · exact hd i hli

/-- **C05 with connections, every reachable state**: whoever is listed as a member of a channel has a live connection, or is
    owed to a clean-up that is still running (the channel is in a clean-up record of that user, or one of the clean-up's LEAVEs for
    that channel has not finished) -/
theorem C05_micro_no_ghost_member (s : St) (h : Reach s) (n : Name) (o : Nat) (u : User)
    (hm : s.base.map n = some o) (hu : u ∈ (s.base.objs o).members) :
    s.live u = true ∨ debt s.base u n o := by
  obtain ⟨_, hi, hd⟩ := linv_reach s h
  rcases hi.mem_idx n o u hm hu with hidx | hdebt
  · left
    cases hl : s.live u with
    | true => rfl
    | false => rw [hd u hl] at hidx; cases hidx
  · right; exact hdebt

/-- at quiescence every listed member has a live connection -/
theorem C05_micro_members_are_live_at_quiescence (s : St) (h : Reach s) (hq : Quiescent s.base) (n : Name) (o : Nat) (u : User)
    (hm : s.base.map n = some o) (hu : u ∈ (s.base.objs o).members) : s.live u = true :=
  (C05_micro_no_ghost_member s h n o u hm hu).resolve_right hq.no_debt

/-- **C01, a returning user**: a name that can be identified again — no connection holds it and its clean-up has finished — is a
    member of nothing, so the new session receives nothing until it joins -/
theorem C01_micro_fresh_session_has_no_memberships (s : St) (h : Reach s) (u : User)
    (hl : s.live u = false) (hc : ¬ CleaningUp s.base u) (n : Name) (o : Nat) (hm : s.base.map n = some o) :
    u ∉ (s.base.objs o).members := by
  intro hu
  rcases C05_micro_no_ghost_member s h n o u hm hu with hl' | hdebt
  · rw [hl] at hl'; cases hl'
  · rcases debt_iff.mp hdebt with ⟨p, hp, hpu, hn⟩ | ⟨t, ow⟩
    · exact hc (.inl ⟨p, hp, hpu, List.ne_nil_of_mem hn⟩)
    · exact hc (.inr ⟨t, ow.kind, ow.user, ow.not_done⟩)

open Narwhal.Generated in
/-- **the three places where the code consults or changes liveness are as the model has them** (read from the source on every run) -/
theorem live_table_ok :
    joinChecksLiveUnderLock = true ∧ hasConnectionNeedsLiveEntry = true ∧ requestsEndBeforeCleanup = true ∧
    unregisterOneSection = true := by decide

/-- non-vacuity: user 1 joins channel 7 and disconnects; the clean-up hands the channel to a LEAVE, which empties and removes it -/
def exRun : St :=
  let s0 : St := { base := Micro.init true, live := fun i => i = 1 }
  [ Micro.Label.spawn 0 .join 1 7, .run 0 {}, .run 0 {}, .cleanup 1, .cleanupNext 0 7 1, .run 1 {}, .run 1 {} ].foldl stepBase s0

example : exRun.base.map 7 = none ∧ exRun.live 1 = false := by decide

#print axioms C05_micro_no_ghost_member
#print axioms C05_micro_members_are_live_at_quiescence
#print axioms C01_micro_fresh_session_has_no_memberships
#print axioms live_table_ok

end Narwhal.MicroL
