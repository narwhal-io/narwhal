import Narwhal.Model.Acl
/-!
# C03 — ACL decisions agree with the ACL the owner reads back (pure part)

`is_allowed a (u@d)  ↔  allow_list a = [] ∨ u@d ∈ allow_list a ∨ bare d ∈ allow_list a`
for every ACL reachable by any sequence of add/remove updates, plus presence/absence of the
named user NIDs after an update.

Decision, report and updates are all read through `lookup`: the report lists `u@d` iff `u` is in the user set
`users a d` of `d`, and the bare `d` iff that set is stored and empty; `addOne`/`removeOne` add to and remove from `users`.
-/
namespace Narwhal.Acl

theorem lookup_eq_none_iff {a : Acl} {d : Str} : lookup a d = none ↔ d ∉ a.map (·.1) := by
  induction a with
  | nil => simp [lookup]
  | cons x rest ih =>
    simp only [lookup, List.map_cons, List.mem_cons, not_or, ← ih]
    split
    · next h => simp [h]
    · next h => simp [Ne.symm h]

theorem lookup_eq_some_iff {a : Acl} (hwf : WF a) {d : Str} {us : List Str} : lookup a d = some us ↔ (d, us) ∈ a := by
  induction a with
  | nil => simp [lookup]
  | cons x rest ih =>
    obtain ⟨hx, hrest⟩ := List.nodup_cons.mp hwf
    simp only [lookup, List.mem_cons]
    split
    · next h =>
      subst h
      have : (x.1, us) ∉ rest := fun hm => hx (List.mem_map_of_mem (f := (·.1)) hm)
      simp [this, Prod.ext_iff, eq_comm]
    · next h => simp [Prod.ext_iff, Ne.symm h, ih hrest]

theorem lookup_setDom (a : Acl) (d e : Str) (us : List Str) :
    lookup (setDom a d us) e = if e = d then some us else lookup a e := by
  induction a with
  | nil => simp only [setDom, lookup, eq_comm]
  | cons x rest ih =>
    simp only [setDom]
    split
    · next h => simp only [lookup, h, eq_comm]; split <;> rfl
    · next h =>
      simp only [lookup, ih]
      split
      · next h' => rw [if_neg (h' ▸ h)]
      · rfl

theorem lookup_eraseDom {a : Acl} (hwf : WF a) (d e : Str) :
    lookup (eraseDom a d) e = if e = d then none else lookup a e := by
  induction a with
  | nil => simp [eraseDom, lookup]
  | cons x rest ih =>
    obtain ⟨hx, hrest⟩ := List.nodup_cons.mp hwf
    simp only [eraseDom]
    split
    · next h =>
      subst h
      simp only [lookup]
      split
      · next h' => subst h'; exact lookup_eq_none_iff.mpr hx
      · next h' => rw [if_neg (Ne.symm h')]
    · next h =>
      simp only [lookup, ih hrest]
      split
      · next h' => rw [if_neg (h' ▸ h)]
      · rfl

theorem keys_setDom (a : Acl) (d : Str) (us : List Str) :
    (setDom a d us).map (·.1) = if d ∈ a.map (·.1) then a.map (·.1) else a.map (·.1) ++ [d] := by
  induction a with
  | nil => simp [setDom]
  | cons x rest ih =>
    simp only [setDom]
    split
    · next h => simp [h]
    · next h => simp only [List.map_cons, ih, List.mem_cons, Ne.symm h, false_or]; split <;> rfl

theorem keys_eraseDom (a : Acl) (d : Str) : (eraseDom a d).map (·.1) = (a.map (·.1)).erase d := by
  induction a with
  | nil => rfl
  | cons x rest ih =>
    simp only [eraseDom, List.map_cons, List.erase_cons, beq_iff_eq]
    split <;> simp [ih]

theorem setDom_wf {a : Acl} (h : WF a) (d : Str) (us : List Str) : WF (setDom a d us) := by
  unfold WF at *
  rw [keys_setDom]
  split
  · exact h
  · next hd => exact (List.perm_append_singleton _ _).nodup_iff.mpr (List.nodup_cons.mpr ⟨hd, h⟩)

theorem eraseDom_wf {a : Acl} (h : WF a) (d : Str) : WF (eraseDom a d) := by
  unfold WF at *
  rw [keys_eraseDom]
  exact h.erase d

theorem lookup_putOrErase {a : Acl} (hwf : WF a) (d e : Str) (us : List Str) :
    lookup (putOrErase a d us) e = if e = d then (if us = [] then none else some us) else lookup a e := by
  unfold putOrErase
  split
  · next h => simp [lookup_eraseDom hwf, List.isEmpty_iff.mp h]
  · next h => simp [lookup_setDom, mt List.isEmpty_iff.mpr h]

theorem addOne_wf {a : Acl} (h : WF a) (n : ANid) : WF (addOne a n) := by
  unfold addOne; cases n.user <;> exact setDom_wf h _ _

theorem putOrErase_wf {a : Acl} (h : WF a) (d : Str) (us : List Str) : WF (putOrErase a d us) := by
  unfold putOrErase; split
  · exact eraseDom_wf h _
  · exact setDom_wf h _ _

theorem removeOne_wf {a : Acl} (h : WF a) (n : ANid) : WF (removeOne a n) := by
  unfold removeOne
  split
  · exact h
  · split <;> exact putOrErase_wf h _ _

theorem update_wf {a : Acl} (h : WF a) (ns : List ANid) (act : Action) : WF (update a ns act) := by
  cases act
  · exact List.foldlRecOn ns addOne h fun _ hb n _ => addOne_wf hb n
  · exact List.foldlRecOn ns removeOne h fun _ hb n _ => removeOne_wf hb n

/-- every ACL reachable from the empty one by any sequence of updates -/
inductive Reachable : Acl → Prop
  | empty : Reachable []
  | step {a} (ns : List ANid) (act : Action) : Reachable a → Reachable (update a ns act)

theorem reachable_wf {a : Acl} (h : Reachable a) : WF a := by
  induction h with
  | empty => simp [WF]
  | step ns act _ ih => exact update_wf ih ns act

def users (a : Acl) (d : Str) : List Str := (lookup a d).getD []

theorem user_mem_allowList {a : Acl} (hwf : WF a) (u d : Str) :
    (⟨some u, d⟩ : ANid) ∈ allowList a ↔ u ∈ users a d := by
  have : u ∈ users a d ↔ ∃ us, (d, us) ∈ a ∧ u ∈ us := by
    simp only [users, ← lookup_eq_some_iff hwf]
    cases lookup a d <;> simp
  simp only [this, allowList, List.mem_flatMap, Prod.exists]
  constructor
  · rintro ⟨d', us, hm, h⟩
    split at h
    · simp at h
    · obtain ⟨v, hv, hvu⟩ := List.mem_map.mp h
      cases hvu
      exact ⟨us, hm, hv⟩
  · rintro ⟨us, hm, hu⟩
    refine ⟨d, us, hm, ?_⟩
    rw [if_neg (mt List.isEmpty_iff.mp (List.ne_nil_of_mem hu))]
    exact List.mem_map.mpr ⟨u, hu, rfl⟩

theorem bare_mem_allowList {a : Acl} (hwf : WF a) (d : Str) :
    (⟨none, d⟩ : ANid) ∈ allowList a ↔ lookup a d = some [] := by
  simp only [lookup_eq_some_iff hwf, allowList, List.mem_flatMap, Prod.exists]
  constructor
  · rintro ⟨d', us, hm, h⟩
    split at h
    · next he => cases List.mem_singleton.mp h; rwa [← List.isEmpty_iff.mp he]
    · simp at h
  · exact fun hm => ⟨d, [], hm, by simp⟩

theorem allowList_eq_nil {a : Acl} : allowList a = [] ↔ a = [] := by
  cases a with
  | nil => simp [allowList]
  | cons x rest =>
    -- the first entry already reports something: the bare domain, or its users, of which there are some
    refine iff_of_false (fun h => ?_) nofun
    simp only [allowList, List.flatMap_cons, List.append_eq_nil_iff] at h
    obtain ⟨h, -⟩ := h
    split at h
    · cases h
    · next he => exact he (List.isEmpty_iff.mpr (List.map_eq_nil_iff.mp h))

/-- **C03 decision = report.**  For every well-formed ACL (every reachable one is, see
    `reachable_wf`) and every client NID `u@d`. -/
theorem allowed_iff_reported (a : Acl) (hwf : WF a) (u d : Str) :
    isAllowed a u d = true ↔
      (allowList a = [] ∨ (⟨some u, d⟩ : ANid) ∈ allowList a ∨ (⟨none, d⟩ : ANid) ∈ allowList a) := by
  rw [allowList_eq_nil, user_mem_allowList hwf, bare_mem_allowList hwf, isAllowed, users]
  by_cases ha : a = []
  · simp [ha]
  · cases lookup a d with
    | none => simp [ha]
    | some us => cases us <;> simp [ha]

/-- **C03, full statement** over every reachable ACL. -/
theorem C03_allowed_iff_reported {a : Acl} (h : Reachable a) (u d : Str) :
    isAllowed a u d = true ↔
      (allowList a = [] ∨ (⟨some u, d⟩ : ANid) ∈ allowList a ∨ (⟨none, d⟩ : ANid) ∈ allowList a) :=
  allowed_iff_reported a (reachable_wf h) u d

theorem users_putOrErase {a : Acl} (hwf : WF a) (d e : Str) (us : List Str) :
    users (putOrErase a d us) e = if e = d then us else users a e := by
  unfold users
  rw [lookup_putOrErase hwf]
  split
  · split
    · next h => rw [h]; rfl
    · rfl
  · rfl

theorem users_addOne (a : Acl) (n : ANid) (d : Str) (u : Str) :
    u ∈ users (addOne a n) d ↔ u ∈ users a d ∨ n = ⟨some u, d⟩ := by
  obtain ⟨nu, nd⟩ := n
  unfold users addOne
  by_cases hd : d = nd
  · subst hd
    cases nu with
    | none => simp [lookup_setDom]
    | some v =>
      simp only [lookup_setDom, if_true, Option.getD_some, ANid.mk.injEq, and_true, Option.some.injEq]
      split
      · exact ⟨.inl, fun h => h.elim id (· ▸ ‹_›)⟩
      · simp [eq_comm]
  · cases nu <;> simp [lookup_setDom, hd, Ne.symm hd]

theorem users_removeOne {a : Acl} (hwf : WF a) (n : ANid) (d : Str) (u : Str) :
    u ∈ users (removeOne a n) d ↔ u ∈ users a d ∧ n ≠ ⟨some u, d⟩ := by
  obtain ⟨nu, nd⟩ := n
  unfold removeOne
  cases hl : lookup a nd with
  | none =>
    -- nothing is stored for `nd`, so nothing is removed and nothing could be
    refine ⟨fun h => ⟨h, ?_⟩, And.left⟩
    rintro ⟨⟩
    simp [users, hl] at h
  | some cur =>
    have hcur : users a nd = cur := by simp [users, hl]
    cases nu with simp only [users_putOrErase hwf, ne_eq, ANid.mk.injEq]
    | none =>
      -- a bare domain names no user: the set is stored again as it was
      split
      · next h => subst h; simp [hcur]
      · simp
    | some v =>
      split
      · next h => subst h; simp [hcur, eq_comm (a := v)]
      · next h => simp [Ne.symm h]

theorem users_update_add (a : Acl) (ns : List ANid) (u d : Str) :
    u ∈ users (update a ns .add) d ↔ u ∈ users a d ∨ (⟨some u, d⟩ : ANid) ∈ ns := by
  simp only [update]
  induction ns generalizing a with
  | nil => simp
  | cons n ns ih => simp only [List.foldl_cons, ih, users_addOne, List.mem_cons, or_assoc, eq_comm]

theorem users_update_remove {a : Acl} (hwf : WF a) (ns : List ANid) (u d : Str) :
    u ∈ users (update a ns .remove) d ↔ u ∈ users a d ∧ (⟨some u, d⟩ : ANid) ∉ ns := by
  simp only [update]
  induction ns generalizing a with
  | nil => simp
  | cons n ns ih =>
    simp only [List.foldl_cons, ih (removeOne_wf hwf n), users_removeOne hwf, List.mem_cons, not_or, and_assoc, ne_eq,
      eq_comm]

/-- **add puts every named user NID in the report** -/
theorem add_present {a : Acl} (hwf : WF a) (ns : List ANid) (u d : Str)
    (h : (⟨some u, d⟩ : ANid) ∈ ns) : (⟨some u, d⟩ : ANid) ∈ allowList (update a ns .add) :=
  (user_mem_allowList (update_wf hwf ns .add) u d).mpr ((users_update_add a ns u d).mpr (.inr h))

/-- **remove takes every named user NID out of the report** -/
theorem remove_absent {a : Acl} (hwf : WF a) (ns : List ANid) (u d : Str)
    (h : (⟨some u, d⟩ : ANid) ∈ ns) : (⟨some u, d⟩ : ANid) ∉ allowList (update a ns .remove) :=
  fun hm => ((users_update_remove hwf ns u d).mp ((user_mem_allowList (update_wf hwf ns .remove) u d).mp hm)).2 h

/-- `putOrErase` never stores an empty set -/
theorem lookup_putOrErase_nil {a : Acl} (hwf : WF a) {d e : Str} {us : List Str}
    (h : lookup (putOrErase a d us) e = some []) : lookup a e = some [] := by
  rw [lookup_putOrErase hwf] at h
  split at h
  · split at h
    · cases h
    · next hne => exact absurd (Option.some.inj h) hne
  · exact h

/-- removing never widens a domain to "everybody in that domain": once a domain's last user is
    removed the domain entry disappears instead of becoming a bare-domain entry. -/
theorem remove_no_bare_domain {a : Acl} (hwf : WF a) (n : ANid) (d : Str)
    (hb : (⟨none, d⟩ : ANid) ∈ allowList (removeOne a n)) : (⟨none, d⟩ : ANid) ∈ allowList a := by
  rw [bare_mem_allowList (removeOne_wf hwf n)] at hb
  rw [bare_mem_allowList hwf]
  unfold removeOne at hb
  split at hb
  · exact hb
  · split at hb <;> exact lookup_putOrErase_nil hwf hb

/-- non-vacuity: a concrete reachable ACL with a user entry, a bare domain and a removed user -/
def exAcl : Acl :=
  update (update (update [] [⟨some "alice".toList, "localhost".toList⟩, ⟨some "bob".toList, "localhost".toList⟩,
    ⟨none, "example.com".toList⟩] .add) [⟨some "bob".toList, "localhost".toList⟩] .remove) [] .add

example : Reachable exAcl := .step _ _ (.step _ _ (.step _ _ .empty))
example : isAllowed exAcl "alice".toList "localhost".toList = true := rfl
example : isAllowed exAcl "bob".toList "localhost".toList = false := rfl
example : isAllowed exAcl "zed".toList "example.com".toList = true := rfl
example : isAllowed exAcl "zed".toList "other.org".toList = false := rfl

end Narwhal.Acl

#print axioms Narwhal.Acl.C03_allowed_iff_reported
#print axioms Narwhal.Acl.add_present
#print axioms Narwhal.Acl.remove_absent
#print axioms Narwhal.Acl.remove_no_bare_domain
