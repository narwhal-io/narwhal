import Narwhal.Model.Server
import Narwhal.Generated.Errors
/-!
# C12 / C06 — table obligations: error reasons and error sites, regenerated from the source on every run

`Server.lean` turns a refusal into an ERROR frame that stays on the connection when the reason is recoverable and into the close
of the connection otherwise (`fail`); `C12_one_reply` rests on every *recoverable* refusal of a request carrying that request's
id (a recoverable error without the id leaves the request unanswered on an open connection).  Both facts are properties of tables
in the source: `Error::is_recoverable` (evaluated on the real type) and the builder chain after each
`narwhal_protocol::Error::new(..)`.
-/
namespace Narwhal.Server
open Narwhal.Generated

/-- the model's `Reason.recoverable` is the code's `Error::is_recoverable`, reason by reason -/
theorem errors_table_ok :
    Reason.recoverable .badRequest = recoverableBadRequest ∧
    Reason.recoverable .channelNotFound = recoverableChannelNotFound ∧
    Reason.recoverable .channelIsFull = recoverableChannelIsFull ∧
    Reason.recoverable .forbidden = recoverableForbidden ∧
    Reason.recoverable .internalServerError = recoverableInternalServerError ∧
    Reason.recoverable .policyViolation = recoverablePolicyViolation ∧
    Reason.recoverable .serverOverloaded = recoverableServerOverloaded ∧
    Reason.recoverable .notAllowed = recoverableNotAllowed ∧
    Reason.recoverable .notImplemented = recoverableNotImplemented ∧
    Reason.recoverable .unauthorized = recoverableUnauthorized ∧
    Reason.recoverable .unexpectedMessage = recoverableUnexpectedMessage ∧
    Reason.recoverable .unsupportedProtocolVersion = recoverableUnsupportedProtocolVersion ∧
    Reason.recoverable .userInChannel = recoverableUserInChannel ∧
    Reason.recoverable .userNotInChannel = recoverableUserNotInChannel ∧
    Reason.recoverable .usernameInUse = recoverableUsernameInUse ∧
    Reason.recoverable .userNotRegistered = recoverableUserNotRegistered ∧
    Reason.recoverable .resourceConflict = recoverableResourceConflict ∧
    Reason.recoverable .responseTooLarge = recoverableResponseTooLarge ∧
    Reason.recoverable .timeout = recoverableTimeout ∧
    Reason.recoverable .outboundQueueFull = recoverableOutboundQueueIsFull ∧
    Reason.recoverable .serverShuttingDown = recoverableServerShuttingDown := by decide

/-- a site is `(function, reason, recoverable, .with_id(..) present, handshake handler)`; it is fine when its error closes the
    connection (`!s.2.2.1`), or carries the request's id (`s.2.2.2.1`), or belongs to the handshake (`s.2.2.2.2`: CONNECT,
    IDENTIFY and AUTH carry no id) -/
def siteOk (s : String × String × Bool × Bool × Bool) : Bool := !s.2.2.1 || s.2.2.2.1 || s.2.2.2.2

/-- **every recoverable error raised by a request handler carries the request's id** (C12: a reply with its own id, never a
    silent or anonymous refusal on a connection that stays open) -/
theorem error_sites_ok : errorSites.all siteOk = true := by decide +kernel

/-- out-of-phase and malformed input is answered by reasons that close the connection (C06) -/
theorem closing_reasons_ok :
    recoverableUnexpectedMessage = false ∧ recoverableBadRequest = false ∧ recoverableUnsupportedProtocolVersion = false ∧
    recoverableUnauthorized = false ∧ recoverableTimeout = false ∧ recoverableInternalServerError = false ∧
    recoverablePolicyViolation = false := by decide

end Narwhal.Server

#print axioms Narwhal.Server.errors_table_ok
#print axioms Narwhal.Server.error_sites_ok
#print axioms Narwhal.Server.closing_reasons_ok
