import Narwhal.Lemmas.Handlers
/-!
# C12 — every accepted request gets exactly one reply, carrying its own id

For the sequential server model: for every state, every authenticated connection `k` of user `u`,
every request kind and every parameter value (ids, pages, channel strings, NIDs are universally
quantified: no bound), the frames queued to `k` by handling the request contain **exactly one** frame
whose correlation id is the request's id, or else an ERROR that closes `k`; and no frame queued to `k`
carries any other id.  Traffic the request causes on other connections (EVENT, MESSAGE) carries no id.
-/
namespace Narwhal.Server

def repliesTo (k i : Nat) (out : List Emit) : List Emit :=
  out.filter (fun e => e.conn = k && e.frame.corrId == some i)

def closedWithError (k : Nat) (out : List Emit) : Prop :=
  ∃ e ∈ out, e.conn = k ∧ e.close = true ∧ ∃ id r, e.frame = .error id r

def Answered (k i : Nat) (out : List Emit) : Prop :=
  (repliesTo k i out).length = 1 ∨ closedWithError k out

def NoForeignId (k i : Nat) (out : List Emit) : Prop :=
  ∀ e ∈ out, e.conn = k → e.frame.corrId = none ∨ e.frame.corrId = some i

theorem repliesTo_append (k i : Nat) (a b : List Emit) : repliesTo k i (a ++ b) = repliesTo k i a ++ repliesTo k i b := by
  simp [repliesTo]

theorem repliesTo_beside {k i : Nat} {r : Req} {l : List Emit} (h : Beside r l) : repliesTo k i l = [] := by
  unfold repliesTo
  rw [List.filter_eq_nil_iff]
  intro e he
  simp [(h e he).1]

theorem repliesTo_plain {k i : Nat} {l : List Emit} (h : ∀ e ∈ l, e.plainEvent) : repliesTo k i l = [] :=
  repliesTo_beside (r := .other) (.of_plain h)

theorem Settled.answered {k i : Nat} {r : Req} {out : List Emit} (h : Settled k r out) (hi : r.id? = some i) :
    Answered k i out := by
  obtain ⟨pre, e, post, h⟩ := h
  rw [h.split]
  rcases h.settles with ⟨j, hj, hf⟩ | ⟨hc, reason, hf⟩
  · left
    cases hi.symm.trans hj
    have : repliesTo k i [e] = [e] := by simp [repliesTo, h.conn, hf]
    rw [← List.singleton_append, repliesTo_append, repliesTo_append, repliesTo_beside h.before, repliesTo_beside h.after, this]
    rfl
  · exact Or.inr ⟨e, by simp, h.conn, hc, none, reason, hf⟩

theorem Settled.noForeignId {k i : Nat} {r : Req} {out : List Emit} (h : Settled k r out) (hi : r.id? = some i) :
    NoForeignId k i out := by
  obtain ⟨pre, e, post, h⟩ := h
  intro x hx _
  rw [h.split] at hx
  rcases List.mem_append.mp hx with hx | hx
  · exact Or.inl (h.before x hx).1
  · rcases List.mem_cons.mp hx with rfl | hx
    · rcases h.settles with ⟨j, hj, hf⟩ | ⟨_, reason, hf⟩
      · exact Or.inr (hf.trans (congrArg some (Option.some.inj (hj.symm.trans hi))))
      · exact Or.inl (by rw [hf]; rfl)
    · exact Or.inl (h.after x hx).1

theorem Settled.closed {k : Nat} {r : Req} {out : List Emit} (h : Settled k r out) (hi : r.id? = none) :
    closedWithError k out := by
  obtain ⟨pre, e, post, h⟩ := h
  rcases h.settles with ⟨j, hj, _⟩ | ⟨hc, reason, hf⟩
  · rw [hi] at hj; cases hj
  · exact ⟨e, by simp [h.split], h.conn, hc, none, reason, hf⟩

/-- **C12, exactly one reply.** -/
theorem C12_one_reply (s : Srv) (k : Nat) (u : Str) (r : Req) (env : Env) (i : Nat) (hi : r.id? = some i) :
    Answered k i (authedStep s k u r env).2 :=
  (authedStep_settled s k u r env).answered hi

/-- **C12, no foreign id**: nothing queued to the requester while handling request `i` bears another id. -/
theorem C12_no_foreign_id (s : Srv) (k : Nat) (u : Str) (r : Req) (env : Env) (i : Nat) (hi : r.id? = some i) :
    NoForeignId k i (authedStep s k u r env).2 :=
  (authedStep_settled s k u r env).noForeignId hi

/-- a request without an id (unknown or out-of-phase kinds, id-less MOD_DIRECT) closes the connection -/
theorem C12_idless_closes (s : Srv) (k : Nat) (u : Str) (env : Env) :
    closedWithError k (authedStep s k u .other env).2 ∧ closedWithError k (authedStep s k u .malformed env).2 :=
  ⟨(authedStep_settled s k u .other env).closed rfl, (authedStep_settled s k u .malformed env).closed rfl⟩

-- non-vacuity
def exDom : Str := ['l','o','c','a','l','h','o','s','t']
def exC1 : Str := ['!','c','1','@','l','o','c','a','l','h','o','s','t']
def exAlice : Str := ['a','l','i','c','e']
def exBob : Str := ['b','o','b']
def exCfgC12 : Cfg :=
  { domain := exDom
    maxChannels := 4
    maxClients := 3
    maxSubs := 2
    maxPayload := 64
    authRequired := false
    hasMod := false
    fwdEvent := false
    sendPrivate := false
    keepAlive := 60000
    minKeepAlive := 1000
    maxMessage := 4096
    maxInflight := 10
    appProtocol := none }

def exHistoryC12 : List (Op × Env) :=
  [(.open_ 1, {}), (.recv 1 (.connect 1 0), {}), (.recv 1 (.identify exAlice), {}),
   (.open_ 2, {}), (.recv 2 (.connect 1 0), {}), (.recv 2 (.identify exBob), {}),
   (.recv 1 (.join 7 exC1 none), {}), (.recv 2 (.join 8 exC1 none), {})]

/-- a 2-member channel exists after the history, and MEMBERS page=0 page_size=u32::MAX gets one reply -/
example : (repliesTo 2 9 (step (run (init exCfgC12) exHistoryC12).1 (.recv 2 (.members 9 exC1 (some 0) (some 4294967295))) {}).2).length = 1 := by
  decide +kernel

/-! ## replies that do not fit `max_message_size` (common/src/conn.rs `serialize_message_inner`) -/

/-- what the connection loop writes for a queued frame: a frame that does not fit the message buffer and bears an id is replaced by
    `ERROR RESPONSE_TOO_LARGE` with that id; one without an id cannot be written at all (the write fails and the connection ends) -/
def fitOrReplace (fits : Frame → Bool) (f : Frame) : Option Frame :=
  if fits f then some f
  else match f.corrId with
    | some i => some (.error (some i) .responseTooLarge)
    | none => none

def substEmit (fits : Frame → Bool) (e : Emit) : Emit := { e with frame := (fitOrReplace fits e.frame).getD e.frame }

def substOut (fits : Frame → Bool) (out : List Emit) : List Emit := out.map (substEmit fits)

theorem fitOrReplace_corrId {fits : Frame → Bool} {f g : Frame} (h : fitOrReplace fits f = some g) : g.corrId = f.corrId := by
  unfold fitOrReplace at h
  split at h
  · cases h; rfl
  · split at h
    · next i hi => cases h; rw [hi]; rfl
    · cases h

theorem fitOrReplace_error {fits : Frame → Bool} {f g : Frame} (h : fitOrReplace fits f = some g) (id : Option Nat) (r : Reason)
    (hf : f = .error id r) : ∃ id' r', g = .error id' r' := by
  unfold fitOrReplace at h
  split at h
  · cases h; exact ⟨id, r, hf⟩
  · split at h
    · cases h; exact ⟨_, _, rfl⟩
    · cases h

theorem substEmit_corrId (fits : Frame → Bool) (e : Emit) : (substEmit fits e).frame.corrId = e.frame.corrId := by
  unfold substEmit
  cases hg : fitOrReplace fits e.frame with
  | none => rfl
  | some g => exact fitOrReplace_corrId hg

/-- **C12 under the size limit**: replacing oversized replies keeps the verdict — still exactly one frame with the request's id
    (the reply or `RESPONSE_TOO_LARGE` in its place), or the closing ERROR -/
theorem C12_substitution_keeps_answer (fits : Frame → Bool) (k i : Nat) (out : List Emit)
    (hw : ∀ e ∈ out, (fitOrReplace fits e.frame).isSome) (h : Answered k i out) :
    Answered k i (substOut fits out) := by
  rcases h with h | ⟨e, he, hk, hc, id, r, hf⟩
  · left
    have : (repliesTo k i (substOut fits out)).length = (repliesTo k i out).length := by
      unfold repliesTo substOut
      rw [List.filter_map, List.length_map]
      congr 1
      apply List.filter_congr
      intro e _
      -- `substEmit` leaves the connection as it is (by definition) and keeps the id
      show (decide ((substEmit fits e).conn = k) && (substEmit fits e).frame.corrId == some i) = _
      rw [substEmit_corrId]
      rfl
    rw [this]; exact h
  · right
    obtain ⟨g, hg⟩ := Option.isSome_iff_exists.mp (hw e he)
    obtain ⟨id', r', hg'⟩ := fitOrReplace_error hg id r hf
    refine ⟨substEmit fits e, List.mem_map.mpr ⟨e, he, rfl⟩, hk, hc, id', r', ?_⟩
    simp [substEmit, hg, hg']

/-- … and still no frame with a foreign id -/
theorem C12_substitution_no_foreign_id (fits : Frame → Bool) (k i : Nat) (out : List Emit) (h : NoForeignId k i out) :
    NoForeignId k i (substOut fits out) := by
  intro e' he' hk'
  unfold substOut at he'
  obtain ⟨e, he, rfl⟩ := List.mem_map.mp he'
  rw [substEmit_corrId]
  exact h e he hk'

end Narwhal.Server

#print axioms Narwhal.Server.C12_one_reply
#print axioms Narwhal.Server.C12_no_foreign_id
#print axioms Narwhal.Server.C12_idless_closes
#print axioms Narwhal.Server.C12_substitution_keeps_answer
#print axioms Narwhal.Server.C12_substitution_no_foreign_id
