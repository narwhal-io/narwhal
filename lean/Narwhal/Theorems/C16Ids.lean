import Narwhal.Generated.ClientIds
/-!
# C16 — correlation ids of live requests are distinct

The request table of `Model/Client.lean` is keyed by correlation id and `submit` ignores an id that is still live, so the model
has no two live requests with one id.  The generator (`ClientInner::next_id`: a 32-bit counter, `wrapping_add(1)`, skipping 0 —
shape read from the source on every run) makes that true of the code as long as fewer than 2^32 − 1 requests are issued during
the lifetime of one request: any two of that many consecutive ids differ, and none is 0.
-/
namespace Narwhal.Client

def M : Nat := 4294967296

/-- `ClientInner::next_id` on a counter value `cur < 2^32` -/
def nextId (cur : Nat) : Nat := if (cur + 1) % M = 0 then 1 else (cur + 1) % M

/-- the id handed out after `k` further calls -/
def idAfter : Nat → Nat → Nat
  | 0, c => c
  | k + 1, c => idAfter k (nextId c)

/-- the successor in the cycle `1, …, 2^32 − 1` -/
theorem nextId_eq (c : Nat) (h : 1 ≤ c ∧ c < M) : nextId c = c % (M - 1) + 1 := by
  unfold nextId M at *
  split <;> omega

theorem idAfter_closed (k c : Nat) (h : 1 ≤ c ∧ c < M) : idAfter k c = (c - 1 + k) % (M - 1) + 1 := by
  induction k generalizing c with
  | zero =>
    simp only [idAfter, Nat.add_zero]
    unfold M at *
    omega
  | succ k ih =>
    have hr : 1 ≤ nextId c ∧ nextId c < M := by rw [nextId_eq c h]; unfold M; omega
    rw [idAfter, ih _ hr, nextId_eq c h, Nat.add_sub_cancel, Nat.mod_add_mod]
    congr 2
    omega

/-- **no id is 0, every id is a 32-bit value** -/
theorem C16_ids_nonzero (k c : Nat) (h : 1 ≤ c ∧ c < M) : 1 ≤ idAfter k c ∧ idAfter k c < M := by
  rw [idAfter_closed k c h]
  unfold M
  omega

/-- **ids of requests issued less than 2^32 − 1 requests apart are different** -/
theorem C16_ids_distinct_in_window (i j c : Nat) (h : 1 ≤ c ∧ c < M) (hij : i < j) (hw : j < i + (M - 1)) :
    idAfter i c ≠ idAfter j c := by
  rw [idAfter_closed i c h, idAfter_closed j c h]
  unfold M at *
  omega

open Narwhal.Generated in
/-- table obligation: the source generates ids exactly this way (a 32-bit counter stepped by `wrapping_add(1)`, 0 skipped) -/
theorem client_ids_table_ok : clientIdsFullU32 = true := by decide

open Narwhal.Generated in
/-- table obligation for the `timeout` step of `Model/Client.lean` (an in-flight request that is dropped returns its permit): in
    `perform_request` the drop guard of the pending entry — which owns the permit — exists before the first suspension point after
    the entry was inserted, so a request dropped while it still waits for the writer's queue gives both back -/
theorem client_cancel_safe_table_ok : clientPendingGuardBeforeSend = true := by decide

example : idAfter 3 4294967294 = 2 := by decide

end Narwhal.Client

#print axioms Narwhal.Client.C16_ids_nonzero
#print axioms Narwhal.Client.C16_ids_distinct_in_window
#print axioms Narwhal.Client.client_ids_table_ok
#print axioms Narwhal.Client.client_cancel_safe_table_ok
