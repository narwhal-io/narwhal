import Narwhal.Model.Reader
/-!
# C10 — inbound framing is segmentation-independent

`frames` (the buffer-and-chunks model of `StreamReader` + the connection loop's frame reader) equals
`spec` (a recursion over the whole byte stream) for **every** buffer capacity, every header
interpretation, every payload limit and every way of cutting the stream into non-empty chunks.
Hence any two segmentations of one stream give the same frames (`C10_segmentation_independent`);
payload bytes are never searched for newlines or shown to the header parser (`spec` takes them with
`take n`), and every payload length up to the limit is accepted (`C10_payload_lengths_accepted`).

The proof is a simulation: `Holds cap s cs R` says that reader state `s` and pending chunks `cs` stand for the unread stream `R`.
-/
namespace Narwhal.Reader

theorem findLF_eq (l : List Byte) : findLF l = l.findIdx? (· == LF) := by
  induction l with
  | nil => rfl
  | cons b bs ih => simp [findLF, List.findIdx?_cons, ih]

theorem findLF_append (l m : List Byte) :
    findLF (l ++ m) = (findLF l).or ((findLF m).map (· + l.length)) := by
  simp [findLF_eq]

theorem findLF_take (l : List Byte) (n : Nat) :
    findLF (l.take n) = (findLF l).bind (Option.guard (· < n)) := by
  simp [findLF_eq]

theorem findLF_lt {l : List Byte} {p : Nat} (h : findLF l = some p) : p < l.length := by
  rw [findLF_eq, List.findIdx?_eq_some_iff_getElem] at h
  exact h.1

theorem findLF_line {cap : Nat} {line : List Byte} (rest : List Byte) (hline : findLF line = none)
    (hfit : line.length < cap) : findLF ((line ++ LF :: rest).take cap) = some line.length := by
  simp [findLF_take, findLF_append, hline, findLF, hfit]

/-- what one `next` means on the whole remaining stream -/
def specNext (cap : Nat) (r : List Byte) : NextRes × List Byte :=
  match findLF (r.take cap) with
  | some p => (.line (r.take p), r.drop (p + 1))
  | none => if r.length ≥ cap then (.tooLong, r) else (.eof, r)

/-- reader states as the code produces them: a recorded line position points into the buffer -/
def RS.WF (s : RS) : Prop :=
  match s.linePos with
  | some p => p < s.buf.length
  | none => True

def NonEmpty (cs : List (List Byte)) : Prop := ∀ c ∈ cs, c ≠ []

@[simp] theorem nonEmpty_nil : NonEmpty [] := by simp [NonEmpty]

@[simp] theorem nonEmpty_cons {c : List Byte} {cs : List (List Byte)} :
    NonEmpty (c :: cs) ↔ c ≠ [] ∧ NonEmpty cs := by
  simp [NonEmpty]

theorem headCheck_some_spec {cap : Nat} {buf : List Byte} {r : NextRes} {s : RS} (rest : List Byte)
    (hb : buf.length ≤ cap) (h : headCheck cap buf = some (r, s)) :
    specNext cap (buf ++ rest) = (r, s.unread ++ rest) ∧ s.WF ∧ s.buf.length ≤ cap := by
  unfold headCheck at h
  split at h
  · next p hf =>
    cases h
    have hp := findLF_lt hf
    -- the LF found in the buffer is the first of the stream, and within `cap`
    have hf' : findLF ((buf ++ rest).take cap) = some p := by
      simp [findLF_take, findLF_append, hf]; omega
    refine ⟨?_, hp, hb⟩
    simp [specNext, hf', RS.unread, List.take_append_of_le_length (Nat.le_of_lt hp),
      List.drop_append_of_le_length (Nat.succ_le_of_lt hp)]
  · next hf =>
    split at h
    · cases h
      -- a full buffer without LF: the first `cap` bytes of the stream are the buffer
      obtain rfl : cap = buf.length := by omega
      simp [specNext, hf, RS.unread, RS.WF]
    · cases h

theorem headCheck_none {cap : Nat} {buf : List Byte} (h : headCheck cap buf = none) :
    findLF buf = none ∧ buf.length < cap := by
  unfold headCheck at h
  split at h
  · cases h
  · next hf =>
    split at h
    · cases h
    · next hlt => exact ⟨hf, Nat.not_le.mp hlt⟩

/-- At EOF nothing is said of the state left behind: `frames` stops there and never reads it (a partial header line may still
    sit in the buffer). -/
theorem nextLoop_spec (cap : Nat) (buf : List Byte) (cs : List (List Byte)) (hb : buf.length ≤ cap) (hne : NonEmpty cs) :
    (nextLoop cap buf cs).1 = (specNext cap (buf ++ cs.flatten)).1 ∧
    ((nextLoop cap buf cs).1 ≠ .eof →
      (nextLoop cap buf cs).2.1.unread ++ (nextLoop cap buf cs).2.2.flatten = (specNext cap (buf ++ cs.flatten)).2 ∧
      (nextLoop cap buf cs).2.1.WF ∧ (nextLoop cap buf cs).2.1.buf.length ≤ cap ∧ NonEmpty (nextLoop cap buf cs).2.2) := by
  -- a loop head that decides: result and state are `specNext`'s, whatever chunks are still to come
  have decided : ∀ {buf r s} (cs : List (List Byte)), buf.length ≤ cap → NonEmpty cs → headCheck cap buf = some (r, s) →
      r = (specNext cap (buf ++ cs.flatten)).1 ∧ (r ≠ .eof →
        s.unread ++ cs.flatten = (specNext cap (buf ++ cs.flatten)).2 ∧ s.WF ∧ s.buf.length ≤ cap ∧ NonEmpty cs) := by
    intro buf r s cs hb hne hh
    obtain ⟨hs, hwf, hb'⟩ := headCheck_some_spec cs.flatten hb hh
    simp [hs, hwf, hb', hne]
  fun_induction nextLoop cap buf cs with
  | case1 buf r s hh => exact decided [] hb hne hh  -- no chunk left, the loop head decides
  | case2 buf hh =>  -- no chunk left, undecided: EOF
    obtain ⟨hf, hlt⟩ := headCheck_none hh
    simp [specNext, findLF_take, hf, Nat.not_le.mpr hlt]
  | case3 buf chunk rest r s hh => exact decided _ hb hne hh  -- the loop head decides before reading
  | case4 buf chunk rest hh hce =>  -- a 0-byte read: no such chunk
    exact absurd (List.isEmpty_iff.mp hce) (nonEmpty_cons.mp hne).1
  | case5 buf chunk rest hh hce hle ih =>  -- the chunk fits: read it and loop
    simpa using ih (by simp; omega) (nonEmpty_cons.mp hne).2
  | case6 buf chunk rest hh hce hgt r s hh2 =>  -- the chunk is cut where the buffer is full; decided
    have := decided (chunk.drop (cap - buf.length) :: rest) (by simp; omega)
      (nonEmpty_cons.mpr ⟨by simp [List.drop_eq_nil_iff]; omega, (nonEmpty_cons.mp hne).2⟩) hh2
    simpa [← List.append_assoc (chunk.take _)] using this
  | case7 buf chunk rest hh hce hgt hh2 =>  -- … undecided: never, a full buffer always decides
    have := (headCheck_none hh2).2
    simp at this; omega

theorem compact_buf {s : RS} (h : s.WF) : (compact s).buf = s.unread := by
  unfold compact RS.unread
  unfold RS.WF at h
  split
  · next p hp => rw [hp] at h; exact congrArg RS.buf (if_pos h)
  · rfl

theorem compact_linePos (s : RS) : (compact s).linePos = none := by
  unfold compact
  split
  · split <;> rfl
  · assumption

theorem unread_length_le {s : RS} : s.unread.length ≤ s.buf.length := by
  unfold RS.unread
  split <;> simp

def Holds (cap : Nat) (s : RS) (cs : List (List Byte)) (R : List Byte) : Prop :=
  s.WF ∧ s.buf.length ≤ cap ∧ NonEmpty cs ∧ s.unread ++ cs.flatten = R

theorem holds_init {cap : Nat} {cs : List (List Byte)} (hne : NonEmpty cs) : Holds cap init cs cs.flatten := by
  simp [Holds, init, RS.WF, RS.unread, hne]

theorem next_spec {cap : Nat} {s : RS} {cs : List (List Byte)} {R : List Byte} (h : Holds cap s cs R) :
    ∃ s' cs', next cap s cs = ((specNext cap R).1, s', cs') ∧
      ((specNext cap R).1 ≠ .eof → Holds cap s' cs' (specNext cap R).2) := by
  obtain ⟨hwf, hb, hne, rfl⟩ := h
  obtain ⟨h1, h2⟩ := nextLoop_spec cap s.unread cs (Nat.le_trans unread_length_le hb) hne
  unfold next
  rw [compact_buf hwf]
  exact ⟨_, _, Prod.ext h1 rfl, fun h => let ⟨a, b, c, d⟩ := h2 (h1 ▸ h); ⟨b, c, d, a⟩⟩

theorem readExact_spec (cs : List (List Byte)) (n : Nat) (hne : NonEmpty cs) :
    (cs.flatten.length < n → readExact cs n = none) ∧
    (n ≤ cs.flatten.length → ∃ cs', readExact cs n = some (cs.flatten.take n, cs') ∧
        cs'.flatten = cs.flatten.drop n ∧ NonEmpty cs') := by
  fun_induction readExact cs n with
  | case1 cs => simp [hne]  -- nothing asked for
  | case2 n => simp  -- no chunk left
  | case3 chunk rest n hce => exact absurd (List.isEmpty_iff.mp hce) (nonEmpty_cons.mp hne).1  -- a 0-byte read: no such chunk
  | case4 chunk rest n hce hle ih =>  -- the whole chunk is taken, the rest comes from `rest`
    obtain ⟨h1, h2⟩ := ih (nonEmpty_cons.mp hne).2
    simp only [List.flatten_cons, List.length_append]
    refine ⟨fun hlt => by simp [h1 (by omega)], fun hge => ?_⟩
    obtain ⟨cs', he, hf, hn⟩ := h2 (by omega)
    exact ⟨cs', by simp [he, List.take_append, List.take_of_length_le hle],
      by simp [hf, List.drop_append, List.drop_of_length_le hle], hn⟩
  | case5 chunk rest n hce hgt =>  -- the chunk holds more than is asked for
    have hlt : n + 1 < chunk.length := by omega
    simp only [List.flatten_cons, List.length_append]
    refine ⟨fun _ => by omega, fun _ => ⟨chunk.drop (n + 1) :: rest, ?_, ?_, ?_⟩⟩
    · rw [List.take_append_of_le_length (by omega)]
    · rw [List.flatten_cons, List.drop_append_of_le_length (by omega)]
    · simp [(nonEmpty_cons.mp hne).2, List.drop_eq_nil_iff, hlt]

theorem remainingCount_eq (s : RS) : remainingCount s = s.unread.length := by
  unfold remainingCount RS.unread
  split
  · simp only [List.length_drop]; split <;> omega
  · rfl

theorem readRaw_spec {cap : Nat} {s : RS} {cs : List (List Byte)} {R : List Byte} (h : Holds cap s cs R)
    (n : Nat) :
    (R.length < n → readRaw s n cs = none) ∧
    (n ≤ R.length → ∃ s' cs', readRaw s n cs = some (R.take n, s', cs') ∧ Holds cap s' cs' (R.drop n)) := by
  obtain ⟨hwf, hb, hne, rfl⟩ := h
  obtain ⟨e1, e2⟩ := readExact_spec cs (n - s.unread.length) hne
  have hlen := @unread_length_le s
  simp only [readRaw, remainingCount_eq, extract, compact_buf hwf, List.length_take, List.length_append]
  -- the state left behind when the buffer is used: what was not taken from it, compacted
  have hs' : ∀ cs' rest, NonEmpty cs' → s.unread.drop n ++ cs'.flatten = rest →
      Holds cap ⟨s.unread.drop n, none⟩ cs' rest := fun cs' rest h1 h2 =>
    ⟨trivial, by simp; omega, h1, h2⟩
  split
  · split
    · next hshort =>
      rw [Nat.min_eq_right (by omega)]
      refine ⟨fun hlt => by simp [e1 (by omega)], fun hge => ?_⟩
      obtain ⟨cs', he, hf, hn'⟩ := e2 (by omega)
      exact ⟨_, cs', by simp [he, List.take_append, List.take_of_length_le (Nat.le_of_lt (by omega : s.unread.length < n))],
        hs' _ _ hn' (by simp [hf, List.drop_append])⟩
    · next hfull =>
      have : n ≤ s.unread.length := by omega
      exact ⟨fun _ => by omega, fun _ => ⟨_, cs, by rw [List.take_append_of_le_length this],
        hs' _ _ hne (by rw [List.drop_append_of_le_length this])⟩⟩
  · next hzero =>
    have hU : s.unread = [] := List.eq_nil_of_length_eq_zero (by omega)
    simp only [hU, List.length_nil, Nat.sub_zero, List.nil_append, Nat.zero_add] at e1 e2 ⊢
    refine ⟨fun hlt => by simp [e1 hlt], fun hge => ?_⟩
    obtain ⟨cs', he, hf, hn'⟩ := e2 hge
    exact ⟨s, cs', by simp [he], hwf, hb, hn', by simp [hU, hf]⟩

/-- `spec` reads the stream through `specNext`, as `frames` reads it through `next` -/
theorem spec_succ (cap maxPayload : Nat) (hdr : List Byte → Hdr) (fuel : Nat) (R : List Byte) :
    spec cap maxPayload hdr (fuel + 1) R =
      match specNext cap R with
      | (.eof, _) => [.eof]
      | (.tooLong, _) => [.closedTooLong]
      | (.line l, R1) =>
        match hdr l with
        | .bad => [.closedBadRequest]
        | .plain => .msg l none :: spec cap maxPayload hdr fuel R1
        | .payload n =>
          if n > maxPayload then [.closedPayloadTooLarge]
          else if R1.length < n + 1 then [.closedTruncated]
          else if (R1.drop n).take 1 = [LF] then .msg l (some (R1.take n)) :: spec cap maxPayload hdr fuel (R1.drop (n + 1))
          else [.closedBadTerminator] := by
  rw [spec, specNext]
  cases findLF (R.take cap) with
  | none => by_cases h : R.length ≥ cap <;> simp [h]
  | some p => rfl

/-- Nothing is assumed of `hdr`: a header that announces 0 bytes is followed by its terminator at
    once, in `frames` (`read_raw` into an empty slice returns without reading, util/src/codec.rs:131-148) as in `spec`.  The
    statements below that assume `hpos : ∀ l n, hdr l = .payload n → 1 ≤ n` do not need it; it says that `deserialize` accepts no
    zero `length` (`validate = "non_zero"` on the `length` parameter of every message with a payload, protocol/src/message.rs;
    only `altered_payload_length` of S2M_FORWARD_BROADCAST_PAYLOAD_ACK, message.rs:541, is not checked). -/
theorem frames_spec (cap maxPayload : Nat) (hdr : List Byte → Hdr)
    (fuel : Nat) {s : RS} {cs : List (List Byte)} {R : List Byte} (h : Holds cap s cs R) :
    frames cap maxPayload hdr fuel s cs = spec cap maxPayload hdr fuel R := by
  induction fuel generalizing s cs R with
  | zero => rfl
  | succ fuel ih =>
    obtain ⟨s1, cs1, hnx, h1⟩ := next_spec h
    rw [frames, hnx, spec_succ]
    rcases hsn : specNext cap R with ⟨res, R1⟩
    rw [hsn] at h1
    cases res with
    | eof => rfl
    | tooLong => rfl
    | line l =>
      replace h1 : Holds cap s1 cs1 R1 := h1 nofun
      dsimp only
      cases hdr l with
      | bad => rfl
      | plain => simp only; rw [ih h1]
      | payload n =>
        simp only
        split
        · rfl
        -- the payload, then its terminator: two `read_raw` against one length test of `spec`
        obtain ⟨r1, r2⟩ := readRaw_spec h1 n
        by_cases hlenp : R1.length < n
        · rw [r1 hlenp, if_pos (by omega)]
        obtain ⟨s2, cs2, hr2, h2⟩ := r2 (by omega)
        obtain ⟨t1, t2⟩ := readRaw_spec h2 1
        rw [hr2]
        simp only
        by_cases hlen1 : (R1.drop n).length < 1
        · rw [t1 hlen1, if_pos (by simp at hlen1 ⊢; omega)]
        obtain ⟨s3, cs3, hr3, h3⟩ := t2 (by omega)
        rw [hr3, if_neg (by simp at hlen1 ⊢; omega)]
        simp only
        split
        · rw [ih h3, List.drop_drop]
        · rfl

/-- **C10, main theorem.** For every buffer capacity, payload limit, header interpretation, reader state
    as the code produces it, and every list of non-empty chunks: the frames the connection loop acts on
    are those of the stream-level specification applied to the concatenated bytes. -/
theorem frames_eq_spec (cap maxPayload : Nat) (hdr : List Byte → Hdr) (hpos : ∀ l n, hdr l = .payload n → 1 ≤ n)
    (fuel : Nat) (s : RS) (cs : List (List Byte))
    (hwf : s.WF) (hb : s.buf.length ≤ cap) (hne : NonEmpty cs) :
    frames cap maxPayload hdr fuel s cs = spec cap maxPayload hdr fuel (s.unread ++ cs.flatten) :=
  frames_spec cap maxPayload hdr fuel ⟨hwf, hb, hne, rfl⟩

/-- **C10, segmentation independence.** Any two ways of cutting the same byte stream into non-empty
    segments make the server act on the same sequence of header lines and payloads (and end the same way). -/
theorem C10_segmentation_independent (cap maxPayload : Nat) (hdr : List Byte → Hdr)
    (hpos : ∀ l n, hdr l = .payload n → 1 ≤ n) (fuel : Nat)
    (cs cs' : List (List Byte)) (hne : NonEmpty cs) (hne' : NonEmpty cs') (hsame : cs.flatten = cs'.flatten) :
    frames cap maxPayload hdr fuel init cs = frames cap maxPayload hdr fuel init cs' := by
  rw [frames_spec cap maxPayload hdr fuel (holds_init hne), frames_spec cap maxPayload hdr fuel (holds_init hne'), hsame]

/-- **payload bytes are opaque and every announced length up to the limit is accepted**: for a header that
    announces `n ≤ maxPayload` bytes, followed by *any* `n` bytes and a newline, the frame is delivered with
    exactly those bytes, whatever they contain, and parsing resumes right after the newline. -/
theorem C10_payload_lengths_accepted (cap maxPayload : Nat) (hdr : List Byte → Hdr) (fuel : Nat)
    (line payload rest : List Byte) (hline : findLF line = none) (hfit : line.length < cap)
    (hh : hdr line = .payload payload.length) (hle : payload.length ≤ maxPayload) :
    spec cap maxPayload hdr (fuel + 1) (line ++ [LF] ++ payload ++ [LF] ++ rest) =
      .msg line (some payload) :: spec cap maxPayload hdr fuel rest := by
  have h1 := findLF_line (payload ++ LF :: rest) hline hfit
  simp only [List.append_assoc, List.singleton_append] at h1 ⊢
  -- one round of `spec`: `h1` finds the end of the line, and `take` / `drop` at `payload.length` split `payload ++ LF :: rest`
  simp [spec, h1, hh, Nat.not_lt.mpr hle]

/-- over-long headers, oversized payloads and missing terminators end in the documented close -/
theorem C10_documented_errors (cap maxPayload : Nat) (hdr : List Byte → Hdr) (fuel : Nat) (r : List Byte) :
    (findLF (r.take cap) = none → cap ≤ r.length → spec cap maxPayload hdr (fuel + 1) r = [.closedTooLong]) ∧
    (∀ p n, findLF (r.take cap) = some p → hdr (r.take p) = .payload n → n > maxPayload →
        spec cap maxPayload hdr (fuel + 1) r = [.closedPayloadTooLarge]) ∧
    (∀ p n, findLF (r.take cap) = some p → hdr (r.take p) = .payload n → n ≤ maxPayload →
        n + 1 ≤ (r.drop (p + 1)).length → ((r.drop (p + 1)).drop n).take 1 ≠ [LF] →
        spec cap maxPayload hdr (fuel + 1) r = [.closedBadTerminator]) := by
  refine ⟨?_, ?_, ?_⟩
  · intro h1 h2; simp [spec, h1, h2]
  · intro p n h1 h2 h3; simp [spec, h1, h2, h3]
  · intro p n h1 h2 h3 h4 h5
    simp only [spec, h1, h2, Nat.not_lt.mpr h3, if_false, Nat.not_lt.mpr h4]
    rw [if_neg h5]

/-- **C10 for a peer that goes silent**: what happens is still independent of the segmentation -/
theorem C10_stall_segmentation_independent (cap maxPayload : Nat) (hdr : List Byte → Hdr)
    (hpos : ∀ l n, hdr l = .payload n → 1 ≤ n) (fuel : Nat)
    (cs cs' : List (List Byte)) (hne : NonEmpty cs) (hne' : NonEmpty cs') (hsame : cs.flatten = cs'.flatten) :
    stallView (frames cap maxPayload hdr fuel init cs) = stallView (frames cap maxPayload hdr fuel init cs') := by
  rw [C10_segmentation_independent cap maxPayload hdr hpos fuel cs cs' hne hne' hsame]

theorem stallView_concat (es : List Ev) (e : Ev) : stallView (es ++ [e]) = es.map .ev ++ stallView [e] := by
  induction es with
  | nil => rfl
  | cons a as ih =>
    rw [List.map_cons, List.cons_append, List.cons_append, ← ih]
    cases as <;> cases a <;> rfl

/-- **never a hang inside a payload**: if the bytes received so far end inside a payload — its body or its terminating newline
    outstanding — the connection is closed with the payload-read TIMEOUT; only between frames does the reader keep waiting -/
theorem C10_stall_inside_payload_times_out (cap maxPayload : Nat) (hdr : List Byte → Hdr) (fuel : Nat) (r : List Byte)
    (h : (spec cap maxPayload hdr fuel r).getLast? = some .closedTruncated) :
    (stallView (spec cap maxPayload hdr fuel r)).getLast? = some .closedPayloadTimeout := by
  obtain ⟨es, hes⟩ := List.getLast?_eq_some_iff.mp h
  rw [hes, stallView_concat]
  simp [stallView]

/-- the terminator counts as part of the payload: a header announcing `n` bytes followed by exactly `n` bytes and nothing more
    is *inside* the payload -/
theorem C10_missing_terminator_is_inside_payload (cap maxPayload : Nat) (hdr : List Byte → Hdr) (fuel : Nat)
    (line payload : List Byte) (hline : findLF line = none) (hfit : line.length < cap)
    (hh : hdr line = .payload payload.length) (hle : payload.length ≤ maxPayload) :
    spec cap maxPayload hdr (fuel + 1) (line ++ [LF] ++ payload) = [.closedTruncated] := by
  have h1 := findLF_line payload hline hfit
  simp only [List.append_assoc, List.singleton_append] at h1 ⊢
  simp [spec, h1, hh, Nat.not_lt.mpr hle]

-- non-vacuity
example : NonEmpty [[80, 73], [78, 71, 32, 105, 100, 61, 49, 10]] := by
  simp

end Narwhal.Reader

#print axioms Narwhal.Reader.frames_eq_spec
#print axioms Narwhal.Reader.C10_segmentation_independent
#print axioms Narwhal.Reader.C10_payload_lengths_accepted
#print axioms Narwhal.Reader.C10_documented_errors
#print axioms Narwhal.Reader.C10_stall_segmentation_independent
#print axioms Narwhal.Reader.C10_stall_inside_payload_times_out
#print axioms Narwhal.Reader.C10_missing_terminator_is_inside_payload
