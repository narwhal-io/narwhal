import Narwhal.Theorems.C13
import Narwhal.Generated.Locks
/-!
# C13 — table obligations for the handlers as they are in the source today

`Generated/Locks.lean` is regenerated from `crates/server/src/{channel,c2s,notifier,router}` on every run:
`handlerPrograms` is, per async function, the sequence of channel-lock acquisitions / releases and other suspension
points (calls between channel-manager functions inlined); `guardSites` lists every DashMap guard whose lexical scope
contains an `.await`.  The general theorems of `Narwhal.Theorems.C13` are about programs in discipline (`wf`) and leave the
map guards out of the model; the first two facts below are what makes them apply to these programs.
-/
namespace Narwhal.Sched
open Narwhal.Generated

/-- no synchronous map guard is alive across a suspension point (so a suspended task never blocks its worker) -/
theorem C13_no_guard_across_await : guardSites = [] := by decide

/-- every handler acquires a channel lock only while holding none, and releases what it acquired -/
theorem C13_handlers_disciplined : handlerPrograms.all (fun p => wf [] p.2) = true := by decide

/-- the handlers the property is about are in the table (the translator found them) -/
theorem C13_table_covers :
    ["channel/mod.rs::join_channel", "channel/mod.rs::leave_channel", "channel/mod.rs::leave_all_channels",
     "channel/mod.rs::list_channels", "channel/mod.rs::list_members", "channel/mod.rs::broadcast_payload",
     "channel/mod.rs::set_channel_acl", "channel/mod.rs::get_channel_acl", "channel/mod.rs::set_channel_configuration",
     "channel/mod.rs::get_channel_configuration"].all (fun n => (handlerPrograms.map (·.1)).contains n) = true := by
  decide

/-- hence: any number of these handlers, spawned in any order and interleaved in any way with any modulator outcomes and
    cancellations, never reach a state where they only wait for each other -/
theorem C13_handlers_never_wedge (evs : List Ev) (t : Task) (ht : t ∈ run [] evs) (hunf : t.prog ≠ [])
    (hquiet : ∀ u ∈ run [] evs, u.waiting = false) : ∃ u ∈ run [] evs, enabled (run [] evs) u :=
  C13_no_wedge evs t ht hunf hquiet

#print axioms C13_no_guard_across_await
#print axioms C13_handlers_disciplined
#print axioms C13_table_covers
#print axioms C13_handlers_never_wedge

end Narwhal.Sched
