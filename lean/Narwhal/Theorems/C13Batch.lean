import Narwhal.Model.Batch
import Narwhal.Generated.Writer
/-!
# C13 / C15 / C19 — writers sharing the message pool never wait for one another (after 02d0f5c)

With `try_acquire` batching a writer that waits for the pool holds no buffer, so every buffer that is not free is held by
a writer that is collecting (which never waits) or writing (which only waits for its own peer).  Hence whenever some
writer waits for a buffer and none is free, a writer exists whose next step does not depend on the pool — there is no
state in which writers only wait for each other.  With the old rule (`awaitMode`) such a state is reachable.
-/
namespace Narwhal.Batch

/-- the shape of the batch-filling loop the model describes (regenerated from the source on every run) -/
theorem batch_table_ok :
    Narwhal.Generated.maxIovs = 128 ∧ Narwhal.Generated.batchTriesBuffers = true ∧
    Narwhal.Generated.batchNeverAwaitsBuffer = true ∧ Narwhal.Generated.batchBufferBeforeDequeue = true ∧
    Narwhal.Generated.connLoopSelectFair = true := by decide

def heldSum (ws : List Writer) : Nat := (ws.map (·.held)).sum

/-- no hold-and-wait -/
def Calm (w : Writer) : Prop := w.held = 0 ∨ w.phase = .collecting ∨ w.phase = .writing

def Inv (cap : Nat) (s : St) : Prop :=
  s.awaitMode = false ∧ s.free + heldSum s.ws = cap ∧ ∀ w ∈ s.ws, Calm w

theorem heldSum_set {ws : List Writer} {i : Nat} {w : Writer} (h : ws[i]? = some w) (w' : Writer) :
    heldSum (ws.set i w') + w.held = heldSum ws + w'.held := by
  induction ws generalizing i with
  | nil => simp at h
  | cons x xs ih =>
    cases i with
    | zero =>
      obtain rfl : x = w := by simpa using h
      simp only [heldSum, List.set_cons_zero, List.map_cons, List.sum_cons]; omega
    | succ j =>
      have := ih (i := j) (by simpa using h)
      simp only [heldSum, List.set_cons_succ, List.map_cons, List.sum_cons] at this ⊢; omega

/-- every step is of this form: writer `i` changes, the pool's free count moves against what the writer holds -/
theorem inv_set {cap : Nat} {s : St} (h : Inv cap s) {i : Nat} {w : Writer} (hw : s.ws[i]? = some w) {w' : Writer} {f : Nat}
    (hf : f + w'.held = s.free + w.held) (hc : Calm w → Calm w') :
    Inv cap { s with free := f, ws := setW s.ws i w' } := by
  obtain ⟨ha, hs, hall⟩ := h
  refine ⟨ha, ?_, fun v hv => ?_⟩
  · have := heldSum_set hw w'
    simp only [setW]; omega
  · rcases List.mem_or_eq_of_mem_set hv with hv | rfl
    · exact hall v hv
    · exact hc (hall w (List.mem_of_getElem? hw))

theorem inv_init (cap mb n : Nat) : Inv cap (init cap mb n false) := by
  refine ⟨rfl, ?_, fun w hw => ?_⟩
  · simp [init, heldSum, List.sum_replicate_nat]
  · rw [(List.mem_replicate.mp hw).2]; exact .inl rfl

theorem inv_step {cap : Nat} (s : St) (e : Step) (h : Inv cap s) : Inv cap (step s e) := by
  -- every step first looks up the writer of its connection: if there is none nothing changes (`exact h`), otherwise `w` is it
  cases e with simp only [step] <;> split <;> try exact h
  | enqueue i => next w hw => exact inv_set h hw rfl id
  | wake i =>
    next w hw =>
    split
    · next hc => exact inv_set h hw rfl fun hw' => .inl (by simpa [Calm, hc.1] using hw')
    · exact h
  | take i =>
    next w hw =>
    split
    · next hfree => exact inv_set h hw (by simp only; omega) fun _ => .inr (.inl rfl)   -- `hfree.2 : 0 < s.free`
    · exact h
  | more i =>
    next w hw =>
    split
    · next hph =>
      split
      · exact inv_set h hw rfl fun _ => .inr (.inr rfl)
      · split
        · next ham => exact absurd ham (by simp [h.1])
        · split
          · next hfree => exact inv_set h hw (by simp only; omega) fun _ => .inr (.inl hph)   -- `hfree : 0 < s.free`
          · exact inv_set h hw rfl fun _ => .inr (.inr rfl)
    · exact h
  | wrote i =>
    next w hw =>
    split
    · exact inv_set h hw (by simp only; omega) fun _ => .inl rfl
    · exact h

/-- **no hold-and-wait, no circular wait** (current code): in every state reachable by any interleaving of routing,
    writer steps and peers accepting or not accepting bytes, a writer that waits for a pool buffer holds none; and if
    the pool is empty (and has any capacity at all), some writer holds buffers without waiting for the pool — it is
    collecting (its next step needs nothing) or writing (it needs only its own peer).  So the writers never wait
    only for each other, however many receivers are slow. -/
theorem C13_writers_never_deadlock (cap mb n : Nat) (l : List Step) (hcap : 0 < cap) :
    let s := run (init cap mb n false) l
    (∀ w ∈ s.ws, w.waitsForPool = true → w.held = 0) ∧
    (s.free = 0 → ∃ w ∈ s.ws, 0 < w.held ∧ w.waitsForPool = false ∧ (w.phase = .collecting ∨ w.phase = .writing)) := by
  intro s
  obtain ⟨-, hsum, hcalm⟩ : Inv cap s := List.foldlRecOn l step (inv_init cap mb n) fun s hs e _ => inv_step s e hs
  -- a calm writer that holds a buffer is collecting or writing, so it does not wait for the pool
  have key : ∀ w ∈ s.ws, 0 < w.held → w.waitsForPool = false ∧ (w.phase = .collecting ∨ w.phase = .writing) := by
    intro w hw hh
    have hp := (hcalm w hw).resolve_left (by omega)
    exact ⟨by rcases hp with hp | hp <;> simp [Writer.waitsForPool, hp], hp⟩
  refine ⟨fun w hw hwp => ?_, fun hf => ?_⟩
  · false_or_by_contra
    have := (key w hw (by omega)).1
    simp [hwp] at this
  · obtain ⟨x, hx, hpos⟩ := List.sum_pos_iff_exists_pos_nat.mp (show 0 < heldSum s.ws by omega)
    obtain ⟨w, hw, rfl⟩ := List.mem_map.mp hx
    exact ⟨w, hw, hpos, key w hw hpos⟩

/-- the old batching rule: two writers, two buffers, two frames queued for each — both end up holding buffers and
    waiting for the pool, with nothing free and nobody writing: a wait that no peer's reading can end (DESIGN D25) -/
theorem old_batching_deadlocks :
    let s := run (init 2 128 2 true)
      [.enqueue 0, .enqueue 0, .enqueue 1, .enqueue 1, .wake 0, .wake 1, .take 0, .take 1, .more 0, .more 1]
    s.free = 0 ∧ ∀ w ∈ s.ws, w.waitsForPool = true ∧ 0 < w.held := by
  decide

-- non-vacuity: the same schedule under the current rule ends with both writers writing
example : ((run (init 2 128 2 false)
    [.enqueue 0, .enqueue 0, .enqueue 1, .enqueue 1, .wake 0, .wake 1, .take 0, .take 1, .more 0, .more 1]).ws.map (·.phase)) =
    [.writing, .writing] := by decide

end Narwhal.Batch

#print axioms Narwhal.Batch.batch_table_ok
#print axioms Narwhal.Batch.C13_writers_never_deadlock
#print axioms Narwhal.Batch.old_batching_deadlocks
