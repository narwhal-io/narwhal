import Narwhal.Model.Sched
/-!
# C13 — no sequence of requests can wedge a worker (lock discipline ⇒ progress)

The theorems hold for **every** set of handler programs that respect the discipline `wf` (checked for the programs
extracted from the current source in `Narwhal.Theorems.C13Table`), every interleaving chosen by the scheduler, every outcome
and delay of every modulator call and every cancellation.
-/
namespace Narwhal.Sched

def AllOk (s : St) : Prop := ∀ t ∈ s, t.ok

/-- no hold-and-wait -/
theorem wf_acquire {held : List Nat} {l : Nat} {p : Prog} :
    wf held (.acquire l :: p) = true ↔ held = [] ∧ wf [l] p = true := by
  rw [wf, Bool.and_eq_true, List.isEmpty_iff]

/-- each clause of `wf` asks of the rest of the program what `advance` leaves the task holding -/
theorem advance_ok (t : Task) (h : t.ok) : (advance t).ok := by
  unfold Task.ok advance at *
  cases hp : t.prog with
  | nil => simpa only [hp] using h
  | cons a p =>
    rw [hp] at h
    cases a with
    | acquire l =>   -- nothing was held, so `[l]` is held now
      obtain ⟨he, hw⟩ := wf_acquire.mp h
      simpa only [he] using hw
    | release l => rw [wf, Bool.and_eq_true] at h; exact h.2
    | call => rwa [wf] at h
    | step => rwa [wf] at h

theorem abort_ok (t : Task) : (abort t).ok := by simp [Task.ok, abort, wf]

theorem mem_modify {s : St} {i : Nat} {f : Task → Task} {t' : Task} (h : t' ∈ modify s i f) :
    t' ∈ s ∨ ∃ t ∈ s, t' = f t := by
  unfold modify at h
  rw [List.mem_mapIdx] at h
  obtain ⟨j, hj, rfl⟩ := h
  split
  · exact Or.inr ⟨s[j], List.getElem_mem hj, rfl⟩
  · exact Or.inl (List.getElem_mem hj)

theorem modify_ok {s : St} (hs : AllOk s) (i : Nat) (f : Task → Task) (hf : ∀ t, t.ok → (f t).ok) : AllOk (modify s i f) := by
  intro t' ht'
  rcases mem_modify ht' with h | ⟨t, ht, rfl⟩
  · exact hs t' h
  · exact hf t (hs t ht)

theorem next_ok (s : St) (e : Ev) (hs : AllOk s) : AllOk (next s e) := by
  cases e with
  | run i =>
    simp only [next]
    split                 -- is there a task `i`?
    · split <;> split     -- is it at an `acquire`? may it run?
      · exact modify_ok hs i advance advance_ok
      · exact hs
      · exact modify_ok hs i advance advance_ok
      · exact hs
    · exact hs
  | answer i ok =>
    simp only [next]
    split
    · split
      · refine modify_ok hs i _ fun t ht => ?_
        split
        · exact ht
        · exact abort_ok t
      · exact hs
    · exact hs
  | cancel i => exact modify_ok hs i abort (fun t _ => abort_ok t)
  | spawn p =>
    simp only [next]
    split
    · next hp =>
      intro t ht
      rcases List.mem_append.mp ht with h | h
      · exact hs t h
      · simp only [List.mem_singleton] at h; subst h; exact hp
    · exact hs

/-- **discipline is invariant**: every task of every reachable state respects it -/
theorem C13_discipline_invariant (evs : List Ev) (s : St) (hs : AllOk s) : AllOk (run s evs) := by
  induction evs generalizing s with
  | nil => exact hs
  | cons e es ih => exact ih _ (next_ok s e hs)

theorem enabled_of_head {s : St} {t : Task} {a : Act} {p : Prog} (hw : t.waiting = false) (hp : t.prog = a :: p)
    (ha : ∀ l, a = .acquire l → lockFree s l) : enabled s t := by
  refine ⟨hw, ?_⟩
  rw [hp]
  cases a with
  | acquire l => exact ha l rfl
  | _ => trivial

theorem holder_not_blocked (t : Task) (h : t.ok) (hh : t.held ≠ []) :
    ∃ a p, t.prog = a :: p ∧ ∀ l, a ≠ .acquire l := by
  unfold Task.ok at h
  cases hp : t.prog with
  | nil => rw [hp, wf, List.isEmpty_iff] at h; exact absurd h hh -- a finished task holds nothing
  | cons a p =>
    refine ⟨a, p, rfl, fun l ha => ?_⟩
    subst ha; rw [hp] at h
    exact hh (wf_acquire.mp h).1

/-- **the holder of a contended lock can run**: if `l` is held, its holder is waiting for the modulator or has an
    enabled action — it never waits for a lock itself -/
theorem C13_holder_can_run (s : St) (hs : AllOk s) (u : Task) (hu : u ∈ s) (l : Nat) (hl : l ∈ u.held) :
    u.waiting = true ∨ enabled s u := by
  cases hw : u.waiting with
  | true => exact .inl rfl
  | false =>
    obtain ⟨a, p, hp, hna⟩ := holder_not_blocked u (hs u hu) (List.ne_nil_of_mem hl)
    exact .inr (enabled_of_head hw hp fun l' h => absurd h (hna l'))

/-- **no wedge**: when no task is waiting for the modulator and some task is unfinished, some task can run -/
theorem C13_no_wedge (evs : List Ev) (t : Task) (ht : t ∈ run [] evs) (hunf : t.prog ≠ [])
    (hquiet : ∀ u ∈ run [] evs, u.waiting = false) : ∃ u ∈ run [] evs, enabled (run [] evs) u := by
  obtain ⟨a, p, hp⟩ := List.exists_cons_of_ne_nil hunf
  -- `t` itself can run, unless it wants a lock that some `u` holds; then `u` can
  by_cases hfree : ∀ l, a = .acquire l → lockFree (run [] evs) l
  · exact ⟨t, ht, enabled_of_head (hquiet t ht) hp hfree⟩
  · simp only [lockFree, Classical.not_forall, Classical.not_not] at hfree
    obtain ⟨l, -, u, hu, hl⟩ := hfree
    rcases C13_holder_can_run _ (C13_discipline_invariant evs [] nofun) u hu l hl with hw | he
    · rw [hquiet u hu] at hw; cases hw
    · exact ⟨u, hu, he⟩

/-- a cancelled / timed-out / failed task holds no lock and has nothing left to do: it cannot keep anybody out -/
theorem C13_abort_frees (t : Task) : (abort t).held = [] ∧ (abort t).prog = [] ∧ (abort t).waiting = false := ⟨rfl, rfl, rfl⟩

theorem C13_cancel_frees (s : St) (i : Nat) (t' : Task) (h : (next s (.cancel i))[i]? = some t') : t'.held = [] ∧ t'.prog = [] := by
  simp only [next, modify] at h
  rw [List.getElem?_mapIdx] at h
  cases hs : s[i]? with
  | none => simp [hs] at h
  | some t => simp [hs] at h; subst h; exact ⟨rfl, rfl⟩

/-- every action a task takes shortens what it has left: a scheduled task cannot run forever -/
theorem C13_run_decreases (t : Task) (h : t.prog ≠ []) : (advance t).prog.length < t.prog.length := by
  unfold advance
  cases hp : t.prog with
  | nil => exact absurd hp h
  | cons a p => cases a <;> simp

-- non-vacuity: JOIN-shaped and LEAVE-shaped programs contending for lock 1

def joinLike : Prog := [.acquire 0, .release 0, .step, .acquire 1, .step, .call, .release 1, .step]
def leaveLike : Prog := [.acquire 0, .release 0, .acquire 1, .call, .step, .release 1]

example : wf [] joinLike = true ∧ wf [] leaveLike = true := by decide

example :
    let s := run [] [.spawn joinLike, .spawn leaveLike, .run 0, .run 0, .run 0, .run 0, .run 0, .run 0, .run 1, .run 1, .run 1]
    -- task 0 is inside its modulator call holding lock 1, task 1 waits for lock 1
    (s.map (fun t => (t.held, t.waiting, t.prog.length))) = [([1], true, 2), ([], false, 4)] := by decide

#print axioms C13_discipline_invariant
#print axioms C13_no_wedge
#print axioms C13_holder_can_run
#print axioms C13_abort_frees
#print axioms C13_cancel_frees
#print axioms C13_run_decreases

end Narwhal.Sched
