import Narwhal.Model.Timers
/-!
# C20 — deadlines, keep-alive and shutdown behave as negotiated

Theorems about the timed automaton of `Narwhal/Model/Timers.lean`, for every configuration with positive timeouts and
`min ≤ max` keep-alive bounds, every requested heartbeat value, every event list (every timing of client activity
relative to the expiries, every PONG behaviour) and every connection state at the moment of shutdown.
-/
namespace Narwhal.Timers
open Narwhal.Generated

/-- what the keep-alive / deadline code of `common/src/conn.rs` must look like for the model to describe it (the table
    is regenerated from the source on every run) -/
theorem timers_table_ok :
    pingTimeoutFactor = 3 ∧ rearmOnlyOnStateChange = true ∧ connectedArmsAuthTimeout = true ∧ authedStartsPingLoop = true ∧
    pongHandlerNonBlocking = true ∧ pingSleepRelative = true ∧ pongWaitRelative = true := by decide

/-- the property's reading of "clamped": 0 = no preference = the configured interval (the maximum) -/
def ClampSpec (f : Nat → Nat → Nat → Nat) : Prop :=
  ∀ ka mn req, mn ≤ ka →
    (req = 0 → f ka mn req = ka) ∧ (0 < req → req < mn → f ka mn req = mn) ∧
    (mn ≤ req → req ≤ ka → 0 < req → f ka mn req = req) ∧ (ka < req → f ka mn req = ka)

theorem clampSpec_of_eq {f : Nat → Nat → Nat → Nat}
    (hf : ∀ ka mn req, f ka mn req = if req = 0 then ka else if req < mn then mn else if req > ka then ka else req) :
    ClampSpec f := by
  intro ka mn req h
  rw [hf]
  repeat' split
  all_goals omega

-- the three handlers clamp in the same way (each `rfl` fails if a handler's translation comes to differ)
theorem clampC2s_spec : ClampSpec clampC2s := clampSpec_of_eq fun _ _ _ => rfl

theorem clampS2m_spec : ClampSpec clampS2m := clampSpec_of_eq fun _ _ _ => rfl

theorem clampM2s_spec : ClampSpec clampM2s := clampSpec_of_eq fun _ _ _ => rfl

/-- configurations the theorems are about: positive deadlines, `0 < min ≤ max` -/
def Cfg.Pos (c : Cfg) : Prop := 0 < c.connectTimeout ∧ 0 < c.authTimeout ∧ 0 < c.minKeepAlive ∧ c.minKeepAlive ≤ c.keepAlive

/-- **C20 (negotiation)**: the announced interval lies within the configured bounds, is the requested one when that
    lies within them, and is the nearer bound otherwise (0 = no preference = the maximum), for all three link types. -/
theorem C20_clamp (c : Cfg) (h : c.minKeepAlive ≤ c.keepAlive) (req : Nat) :
    c.minKeepAlive ≤ c.clamp req ∧ c.clamp req ≤ c.keepAlive ∧
    (c.minKeepAlive ≤ req → req ≤ c.keepAlive → 0 < req → c.clamp req = req) ∧
    (c.keepAlive < req → c.clamp req = c.keepAlive) ∧ (0 < req → req < c.minKeepAlive → c.clamp req = c.minKeepAlive) ∧
    (req = 0 → c.clamp req = c.keepAlive) := by
  obtain ⟨f, hf, hc⟩ : ∃ f, ClampSpec f ∧ c.clamp req = f c.keepAlive c.minKeepAlive req := by
    unfold Cfg.clamp
    cases c.link
    · exact ⟨_, clampC2s_spec, rfl⟩
    · exact ⟨_, clampS2m_spec, rfl⟩
    · exact ⟨_, clampM2s_spec, rfl⟩
  obtain ⟨h0, h1, h2, h3⟩ := hf _ _ req h
  rw [hc]
  refine ⟨?_, ?_, h2, h3, h1, h0⟩ <;> omega

theorem clamp_pos (c : Cfg) (h : c.Pos) (req : Nat) : 0 < c.clamp req :=
  Nat.lt_of_lt_of_le h.2.2.1 (C20_clamp c h.2.2.2 req).1

theorem step_of_closed {s : St} (hc : s.closed = true) (e : Ev) : step s e = s := by simp [step, hc]

/-- `ignored`: no task is scheduled, or the keep-alive task runs outside the authenticated phase (neither happens to a state
    in `Shape`). -/
@[elab_as_elim]
theorem fire_cases {motive : St → Prop} (s : St) (hc : s.closed = false)
    (ignored : motive s)
    (deadline : ∀ d r, s.task = .deadline d r → motive (closeWith { s with now := d } r))
    (noPong : ∀ n dl, s.task = .waiting n dl → motive (closeWith { s with now := dl } .timeoutPing))
    (sleptActive : ∀ w last iv, s.task = .sleeping w last → s.phase = .authed iv → s.activity ≠ last →
      motive { s with now := w, task := .sleeping (w + iv) s.activity })
    (sleptIdleParked : ∀ w, motive (closeWith { s with now := w, pings := s.pings + 1, slot := none } .badRequest))
    (sleptIdlePing : ∀ w last iv, s.task = .sleeping w last → s.phase = .authed iv → s.activity = last → s.slot = none →
      motive { s with now := w, pings := s.pings + 1, pingAt := w, out := s.out ++ [(w, .ping (s.pings + 1))],
                      task := .waiting (s.pings + 1) (w + pingTimeoutFactor * iv) }) :
    motive (fire s) := by
  fun_cases fire s
  case case1 h => cases hc.symm.trans h
  case case2 | case8 => exact ignored                                        -- idle | sleeping, not authenticated
  case case3 d r ht => exact deadline d r ht
  case case4 n dl ht => exact noPong n dl ht                                 -- waiting
  case case5 w last ht iv hph ha => exact sleptActive w last iv ht hph ha    -- sleeping, counter moved
  case case6 w _ _ _ _ _ _ _ => exact sleptIdleParked w                      -- sleeping, counter as it was, slot full
  case case7 w last ht iv hph ha hsl =>                                      -- sleeping, counter as it was, slot empty
    exact sleptIdlePing w last iv ht hph (Decidable.of_not_not ha) hsl

/-- `ignored`: a wait that goes backwards or up to the expiry, a PONG when no keep-alive task runs, a delivery to a connection
    that is not authenticated.  `refused`: a message the phase does not accept, a PONG that answers nothing, shutdown. -/
@[elab_as_elim]
theorem step_cases {motive : St → Prop} (s : St) (hc : s.closed = false)
    (ignored : motive s)
    (waitTick : ∀ t, s.now ≤ t → (∀ d, due s = some d → t < d) → motive { s with now := t })
    (expiry : motive (fire s))
    (connectTwoPhase : ∀ req, s.phase = .connecting →
      motive { s with out := s.out ++ [(s.now, .ack (s.cfg.clamp req))], phase := .connected (s.cfg.clamp req),
                      task := .deadline (s.now + s.cfg.authTimeout) .timeoutAuth, phaseAt := s.now })
    (connectDirect : ∀ req, s.phase = .connecting →
      motive (startPing { s with out := s.out ++ [(s.now, .ack (s.cfg.clamp req))] } (s.cfg.clamp req)))
    (authOk : ∀ iv, s.phase = .connected iv → motive (startPing { s with out := s.out ++ [(s.now, .authOk)] } iv))
    (authRetry : motive { s with out := s.out ++ [(s.now, .authRetry)] })
    (request : ∀ iv, s.phase = .authed iv →
      motive { s with activity := s.activity + 1, lastAct := s.now, out := s.out ++ [(s.now, .reply)] })
    (pongMatched : ∀ iv n dl, s.phase = .authed iv → s.task = .waiting n dl →
      motive { s with task := .sleeping (s.now + iv) s.activity, lastAct := s.now })
    (pongParked : ∀ iv w last v, s.phase = .authed iv → s.task = .sleeping w last → motive { s with slot := some v })
    (deliver : motive { s with out := s.out ++ [(s.now, .pushed)] })
    (peerClose : motive { s with closed := true, task := .idle })
    (refused : ∀ r, r = .unexpected ∨ r = .badRequest ∨ r = .shuttingDown → motive (closeWith s r))
    (e : Ev) : motive (step s e) := by
  fun_cases step s e
  -- the cases are the branches of `step` in the order of its text
  case case1 h => cases hc.symm.trans h
  case case2 t h1 d hd hlt =>                                           -- wait, to before the expiry
    exact waitTick t h1 fun d' hd' => Option.some.inj (hd.symm.trans hd') ▸ hlt
  case case4 t h1 hd => exact waitTick t h1 fun d' hd' => nomatch hd.symm.trans hd'   -- wait, nothing scheduled
  case case3 | case5 => exact ignored                                   -- wait, to the expiry or beyond | backwards
  case case6 => exact expiry
  case case7 req hph _ _ _ => exact connectTwoPhase req hph             -- connect, connecting, C2S
  case case8 req hph _ _ _ => exact connectDirect req hph               -- connect, connecting, S2M / M2S
  case case10 iv hph => exact authOk iv hph                             -- authOk, connected
  case case12 => exact authRetry                                        -- authRetry, connected
  case case14 iv hph => exact request iv hph                            -- request, authenticated
  case case17 n iv hph _ dl _ ht => exact pongMatched iv _ dl hph ht    -- pong, waiting, slot empty, the awaited id
  case case19 n iv hph _ w last ht _ => exact pongParked iv w last _ hph ht   -- pong, sleeping, slot empty
  case case21 => exact ignored                                          -- pong, authenticated, no keep-alive task
  case case24 => exact peerClose
  case case25 => exact deliver                                          -- deliver, authenticated
  case case26 => exact ignored                                          -- deliver, not authenticated
  -- connect | authOk | authRetry | request | pong, each in another phase than above
  case case9 | case11 | case13 | case15 | case22 => exact refused _ (.inl rfl)
  -- pong: waiting, slot full | waiting, another id | sleeping, slot full
  case case16 | case18 | case20 => exact refused _ (.inr (.inl rfl))
  case case23 => exact refused _ (.inr (.inr rfl))                      -- shutdown

theorem step_cfg_opened (s : St) (e : Ev) : (step s e).cfg = s.cfg ∧ (step s e).opened = s.opened := by
  cases hc : s.closed with
  | true => rw [step_of_closed hc]; exact ⟨rfl, rfl⟩
  | false =>
    let keeps (s' : St) := s'.cfg = s.cfg ∧ s'.opened = s.opened
    apply step_cases (motive := keeps) s hc
    case expiry =>
      apply fire_cases (motive := keeps) s hc
      all_goals intros; exact ⟨rfl, rfl⟩
    all_goals intros; exact ⟨rfl, rfl⟩

theorem step_fire (s : St) : step s .fire = fire s := by
  by_cases hc : s.closed = true
  · rw [step_of_closed hc, fire, if_pos hc]
  · rw [step, if_neg hc]

theorem step_wait (s : St) (t : Nat) : step s (.wait t) = s ∨ step s (.wait t) = { s with now := t } := by
  rw [step]
  repeat' split
  all_goals simp

theorem step_deliver (s : St) : step s .deliver = s ∨ step s .deliver = { s with out := s.out ++ [(s.now, .pushed)] } := by
  rw [step]
  repeat' split
  all_goals simp

theorem fire_waiting {s : St} (hc : s.closed = false) {n dl : Nat} (ht : s.task = .waiting n dl) :
    fire s = closeWith { s with now := dl } .timeoutPing := by
  simp only [fire, hc, ht, Bool.false_eq_true, if_false]

theorem fire_active {s : St} (hc : s.closed = false) {iv : Nat} (hph : s.phase = .authed iv) {w last : Nat}
    (ht : s.task = .sleeping w last) (ha : s.activity ≠ last) :
    fire s = { s with now := w, task := .sleeping (w + iv) s.activity } := by
  simp [fire, hc, hph, ht, ha]

theorem fire_idle {s : St} (hc : s.closed = false) {iv : Nat} (hph : s.phase = .authed iv) {w last : Nat}
    (ht : s.task = .sleeping w last) (ha : s.activity = last) :
    (s.slot = none ∧
      fire s = { s with now := w, pings := s.pings + 1, pingAt := w, out := s.out ++ [(w, .ping (s.pings + 1))],
                        task := .waiting (s.pings + 1) (w + pingTimeoutFactor * iv) }) ∨
    (s.slot ≠ none ∧ fire s = closeWith { s with now := w, pings := s.pings + 1, slot := none } .badRequest) := by
  cases hsl : s.slot with
  | none => exact .inl ⟨rfl, by simp [fire, hc, hph, ht, ha, hsl]⟩
  | some v => exact .inr ⟨nofun, by simp [fire, hc, hph, ht, ha, hsl]⟩

theorem step_request {s : St} (hc : s.closed = false) {iv : Nat} (hph : s.phase = .authed iv) :
    step s .request = { s with activity := s.activity + 1, lastAct := s.now, out := s.out ++ [(s.now, .reply)] } := by
  simp only [step, hc, hph, Bool.false_eq_true, if_false]

/-- `n'`: the id as the model reads it (`0` for one that was never sent) -/
theorem step_pong_waiting {s : St} (hc : s.closed = false) {iv : Nat} (hph : s.phase = .authed iv) {m dl : Nat}
    (ht : s.task = .waiting m dl) (hsl : s.slot = none) (n : Nat) :
    step s (.pong n) =
      let n' := if 1 ≤ n ∧ n ≤ s.pings then n else 0
      if n' = m then { s with task := .sleeping (s.now + iv) s.activity, lastAct := s.now } else closeWith s .badRequest := by
  simp only [step, hc, hph, ht, hsl, Bool.false_eq_true, if_false]

theorem advance_fire {s : St} {d t : Nat} (hc : s.closed = false) (hd : due s = some d) (hle : d ≤ t) (fuel : Nat) :
    advance (fuel + 1) s t = advance fuel (fire s) t := by
  simp [advance, hc, hd, hle]

theorem advance_wait {s : St} {t : Nat} (h : s.closed = true ∨ ∀ d, due s = some d → t < d) (fuel : Nat) :
    advance fuel s t = step s (.wait t) := by
  cases fuel with
  | zero => rfl
  | succ n =>
    rw [advance]
    split
    · rfl
    · next hc =>
      split
      · next d hd => rw [if_neg (Nat.not_le_of_lt (h.resolve_left hc d hd))]
      · rfl

/-- The sleeping row: a request made while the task sleeps comes at most one interval before the wake-up (`w ≤ now + iv`), so
    `w ≤ lastAct + iv` while the counter differs from `last`.  The task goes to sleep, for one interval and remembering the
    counter, at authentication or at the awaited PONG (`w = lastAct + iv`) or at such a wake-up: so
    `lastAct + iv ≤ w ≤ lastAct + 2·iv` while the counter is `last`. -/
def Shape (s : St) : Prop :=
  s.closed = false →
  match s.phase, s.task with
  | .connecting, .deadline d r => d = s.opened + s.cfg.connectTimeout ∧ r = .timeoutConnect ∧ s.now < d
  | .connected iv, .deadline d r => 0 < iv ∧ d = s.phaseAt + s.cfg.authTimeout ∧ r = .timeoutAuth ∧ s.now < d
  | .authed iv, .sleeping w last =>
      0 < iv ∧ s.now < w ∧ w ≤ s.now + iv ∧ last ≤ s.activity ∧ s.lastAct ≤ s.now ∧
      (s.activity = last → s.lastAct + iv ≤ w ∧ w ≤ s.lastAct + 2 * iv) ∧ (s.activity ≠ last → w ≤ s.lastAct + iv)
  | .authed iv, .waiting n dl =>
      0 < iv ∧ dl = s.pingAt + pingTimeoutFactor * iv ∧ s.now < dl ∧ s.pingAt ≤ s.now ∧ n = s.pings ∧ 0 < n ∧
      s.slot = none ∧ s.lastAct ≤ s.now
  | _, _ => False

theorem shape_of_closed {s : St} (hc : s.closed = true) : Shape s := fun h => nomatch hc.symm.trans h

theorem shape_init (c : Cfg) (t0 : Nat) (h : c.Pos) : Shape (init c t0) :=
  fun _ => ⟨rfl, rfl, Nat.lt_add_of_pos_right h.1⟩

/-- the rows of `Shape` with their clauses named, as `Shape.connecting` … `Shape.waiting` hand them over -/
structure ConnectingRow (s : St) : Prop where
  task : s.task = .deadline (s.opened + s.cfg.connectTimeout) .timeoutConnect
  now_lt : s.now < s.opened + s.cfg.connectTimeout

structure ConnectedRow (s : St) (iv : Nat) : Prop where
  iv_pos : 0 < iv
  task : s.task = .deadline (s.phaseAt + s.cfg.authTimeout) .timeoutAuth
  now_lt : s.now < s.phaseAt + s.cfg.authTimeout

structure SleepingRow (s : St) (iv w last : Nat) : Prop where
  iv_pos : 0 < iv
  now_lt : s.now < w
  wake_le : w ≤ s.now + iv
  last_le : last ≤ s.activity
  lastAct_le : s.lastAct ≤ s.now
  idle : s.activity = last → s.lastAct + iv ≤ w ∧ w ≤ s.lastAct + 2 * iv
  active : s.activity ≠ last → w ≤ s.lastAct + iv

structure WaitingRow (s : St) (iv n dl : Nat) : Prop where
  iv_pos : 0 < iv
  dl_eq : dl = s.pingAt + 3 * iv
  now_lt : s.now < dl
  pingAt_le : s.pingAt ≤ s.now
  n_eq : n = s.pings
  n_pos : 0 < n
  slot : s.slot = none
  lastAct_le : s.lastAct ≤ s.now

theorem Shape.connecting {s : St} (h : Shape s) (hc : s.closed = false) (hph : s.phase = .connecting) : ConnectingRow s := by
  have hs := h hc
  cases ht : s.task <;> simp only [hph, ht] at hs
  obtain ⟨rfl, rfl, h3⟩ := hs
  exact ⟨ht, h3⟩

theorem Shape.connected {s : St} (h : Shape s) (hc : s.closed = false) {iv : Nat} (hph : s.phase = .connected iv) :
    ConnectedRow s iv := by
  have hs := h hc
  cases ht : s.task <;> simp only [hph, ht] at hs
  obtain ⟨h0, rfl, rfl, h3⟩ := hs
  exact ⟨h0, ht, h3⟩

theorem Shape.authed {s : St} (h : Shape s) (hc : s.closed = false) {iv : Nat} (hph : s.phase = .authed iv) :
    (∃ w last, s.task = .sleeping w last) ∨ ∃ n dl, s.task = .waiting n dl := by
  have hs := h hc
  cases ht : s.task with
  | sleeping w last => exact .inl ⟨w, last, rfl⟩
  | waiting n dl => exact .inr ⟨n, dl, rfl⟩
  | _ => simp only [hph, ht] at hs

theorem Shape.sleeping {s : St} (h : Shape s) (hc : s.closed = false) {iv : Nat} (hph : s.phase = .authed iv) {w last : Nat}
    (ht : s.task = .sleeping w last) : SleepingRow s iv w last := by
  have hs := h hc
  simp only [hph, ht] at hs
  obtain ⟨h1, h2, h3, h4, h5, h6, h7⟩ := hs
  exact ⟨h1, h2, h3, h4, h5, h6, h7⟩

theorem Shape.waiting {s : St} (h : Shape s) (hc : s.closed = false) {iv : Nat} (hph : s.phase = .authed iv) {n dl : Nat}
    (ht : s.task = .waiting n dl) : WaitingRow s iv n dl := by
  have hs := h hc
  simp only [hph, ht, pingTimeoutFactor] at hs
  obtain ⟨h1, h2, h3, h4, h5, h6, h7, h8⟩ := hs
  exact ⟨h1, h2, h3, h4, h5, h6, h7, h8⟩

theorem shape_tick {s : St} (h : Shape s) {t : Nat} (h1 : s.now ≤ t) (h2 : ∀ d, due s = some d → t < d) :
    Shape { s with now := t } := by
  intro hc
  have hs := h hc
  unfold due at h2
  dsimp only
  -- row by row: `now` is before the expiry, as `t` is by `h2`; every other bound on `now` is from below, and `now ≤ t`
  split at hs <;> simp only [*, true_and] at h2 ⊢ <;> omega

theorem shape_startPing (s : St) {iv : Nat} (hiv : 0 < iv) : Shape (startPing s iv) := by
  intro _
  simp only [startPing]
  omega

theorem shape_fire (s : St) (h : Shape s) (hc : s.closed = false) : Shape (fire s) := by
  refine fire_cases s hc ?ignored ?deadline ?noPong ?sleptActive ?sleptIdleParked ?sleptIdlePing
  case ignored => exact h
  case deadline => exact fun _ _ _ => shape_of_closed rfl
  case noPong => exact fun _ _ _ => shape_of_closed rfl
  case sleptActive =>
    -- the counter moved, so this wake-up is at most one interval after the last activity; the next is one interval on
    intro w last iv ht hph ha _
    have { iv_pos, now_lt, lastAct_le, active, .. } := h.sleeping hc hph ht
    simp only [hph]
    omega
  case sleptIdleParked => exact fun _ => shape_of_closed rfl
  case sleptIdlePing =>
    intro w last iv ht hph ha hsl _
    have { iv_pos, now_lt, lastAct_le, .. } := h.sleeping hc hph ht
    simp only [hph, hsl, true_and, pingTimeoutFactor]
    omega

theorem shape_step (s : St) (e : Ev) (hp : s.cfg.Pos) (h : Shape s) : Shape (step s e) := by
  cases hc : s.closed with
  | true => rwa [step_of_closed hc]
  | false =>
    refine step_cases s hc ?ignored ?waitTick ?expiry ?connectTwoPhase ?connectDirect ?authOk ?authRetry ?request ?pongMatched
      ?pongParked ?deliver ?peerClose ?refused e
    case ignored => exact h
    case waitTick => exact fun t h1 h2 => shape_tick h h1 h2
    case expiry => exact shape_fire s h hc
    case connectTwoPhase => exact fun req _ _ => ⟨clamp_pos _ hp _, rfl, rfl, Nat.lt_add_of_pos_right hp.2.1⟩
    case connectDirect => exact fun req _ => shape_startPing _ (clamp_pos _ hp _)
    case authOk => exact fun iv hph => shape_startPing _ (h.connected hc hph).iv_pos
    case authRetry => exact h   -- the shape does not read `out`
    case request =>
      -- the counter is now ahead of the one a sleeping task remembers, and the last activity is now
      intro iv hph _
      rcases h.authed hc hph with ⟨w, last, ht⟩ | ⟨n, dl, ht⟩
      · have { iv_pos, now_lt, wake_le, last_le, .. } := h.sleeping hc hph ht
        simp only [hph, ht]
        omega
      · have r := h.waiting hc hph ht
        simp only [hph, ht, pingTimeoutFactor]
        exact ⟨r.iv_pos, r.dl_eq, r.now_lt, r.pingAt_le, r.n_eq, r.n_pos, r.slot, Nat.le_refl _⟩
    case pongMatched =>
      intro iv n dl hph ht _
      have := (h.waiting hc hph ht).iv_pos
      simp only [hph]
      omega
    case pongParked =>
      -- the sleeping row does not read `slot`
      intro iv w last v hph ht _
      simpa only [hph, ht] using h hc
    case deliver => exact h
    case peerClose => exact shape_of_closed rfl
    case refused => exact fun _ _ => shape_of_closed rfl

/-- what an ERROR written at `t` has to be right about: a TIMEOUT names its phase and its instant, and the keep-alive
    TIMEOUT comes three intervals after the last PING, which is on the wire -/
def ErrorOk (s : St) (t : Nat) : Reason → Prop
  | .timeoutConnect => s.phase = .connecting ∧ t = s.opened + s.cfg.connectTimeout
  | .timeoutAuth => ∃ iv, s.phase = .connected iv ∧ t = s.phaseAt + s.cfg.authTimeout
  | .timeoutPing => ∃ iv, s.phase = .authed iv ∧ t = s.pingAt + 3 * iv ∧ (s.pingAt, Frame.ping s.pings) ∈ s.out
  | _ => True

/-- What the frames written so far say about the state (`error`, `ack`, `authOk`), and the state about the frames
    (`ack_at`, `ping_sent`).  An ERROR is written only by a close, and nothing after it: so `error` says nothing of an
    open connection (`outInv_noerr`), and is settled for good at the close, by `outInv_close`. -/
structure OutInv (s : St) : Prop where
  error : ∀ t r, (t, Frame.error r) ∈ s.out → s.closed = true ∧ ErrorOk s t r
  ack : ∀ t hb, (t, Frame.ack hb) ∈ s.out → s.phase ≠ .connecting ∧ ∃ req, hb = s.cfg.clamp req
  authOk : ∀ t, (t, Frame.authOk) ∈ s.out → ∃ iv, s.phase = .authed iv
  ack_at : ∀ iv, s.phase = .connected iv → (s.phaseAt, Frame.ack iv) ∈ s.out
  ping_sent : ∀ n dl, s.task = .waiting n dl → (s.pingAt, Frame.ping n) ∈ s.out

theorem outInv_init (c : Cfg) (t0 : Nat) : OutInv (init c t0) :=
  { error := nofun, ack := nofun, authOk := nofun, ack_at := nofun, ping_sent := nofun }

theorem outInv_noerr {s : St} (h : OutInv s) (hc : s.closed = false) (t : Nat) (r : Reason) : (t, Frame.error r) ∉ s.out :=
  fun hm => nomatch (h.error t r hm).1.symm.trans hc

theorem mem_out_of_ne {out : List (Nat × Frame)} {t t' : Nat} {f g : Frame} (hm : (t, f) ∈ out ++ [(t', g)]) (hne : f ≠ g) :
    (t, f) ∈ out :=
  (List.mem_append.mp hm).resolve_right fun hq => hne (Prod.mk.inj (List.mem_singleton.mp hq)).2

/-- the `error` clause after a frame that is no ERROR has been written to an open connection, whatever else has changed -/
theorem OutInv.error_write {s s' : St} (h : OutInv s) (hc : s.closed = false) {t : Nat} {f : Frame}
    (hout : s'.out = s.out ++ [(t, f)]) (hf : ∀ r, .error r ≠ f) (t' : Nat) (r : Reason) (hm : (t', Frame.error r) ∈ s'.out) :
    s'.closed = true ∧ ErrorOk s' t' r :=
  absurd (mem_out_of_ne (hout ▸ hm) (hf r)) (outInv_noerr h hc t' r)

/-- `s'` is `s` as the closing branch has left it: `fire` moves `now` to the expiry, and counts the PING that meets a parked PONG. -/
theorem outInv_close {s s' : St} {t p : Nat} {sl : Option Nat} (h : OutInv s) (hc : s.closed = false)
    (hs' : s' = { s with now := t, pings := p, slot := sl }) (r : Reason) (hr : ErrorOk (closeWith s' r) t r) :
    OutInv (closeWith s' r) := by
  subst hs'
  exact {
    error := fun t' r' hm => by
      -- no ERROR was on the wire, so this is the one just written
      obtain ⟨rfl, rfl⟩ : t' = t ∧ r' = r := by simpa [closeWith, outInv_noerr h hc] using hm
      exact ⟨rfl, hr⟩
    -- the frames written are neither ACK nor AUTH_OK, and `phase`, `phaseAt`, `cfg` stay
    ack := fun t' hb hm => h.ack t' hb ((List.mem_append.mp hm).resolve_right (by simp))
    authOk := fun t' hm => h.authOk t' ((List.mem_append.mp hm).resolve_right (by simp))
    ack_at := fun iv hph => List.mem_append_left _ (h.ack_at iv hph)
    ping_sent := nofun }   -- the task is cancelled

theorem outInv_write {s : St} (h : OutInv s) (hc : s.closed = false) (t : Nat) {f : Frame}
    (herr : ∀ r, .error r ≠ f) (hack : ∀ hb, .ack hb ≠ f) (hauth : .authOk ≠ f) :
    OutInv { s with out := s.out ++ [(t, f)] } where
  error := h.error_write hc rfl herr
  ack t' hb hm := h.ack t' hb (mem_out_of_ne hm (hack hb))
  authOk t' hm := h.authOk t' (mem_out_of_ne hm hauth)
  ack_at iv hph := List.mem_append_left _ (h.ack_at iv hph)
  ping_sent n dl ht := List.mem_append_left _ (h.ping_sent n dl ht)

theorem outInv_fire (s : St) (hs : Shape s) (h : OutInv s) (hc : s.closed = false) : OutInv (fire s) := by
  have hsh := hs hc
  refine fire_cases s hc ?ignored ?deadline ?noPong ?sleptActive ?sleptIdleParked ?sleptIdlePing
  case ignored => exact h
  case deadline =>
    intro d r ht
    refine outInv_close h hc rfl r ?_
    -- the shape says which deadline it is, and when it is due
    cases hph : s.phase with
    | connecting => cases ht.symm.trans (hs.connecting hc hph).task; exact ⟨rfl, rfl⟩
    | connected iv => cases ht.symm.trans (hs.connected hc hph).task; exact ⟨iv, rfl, rfl⟩
    | authed iv => simp only [hph, ht] at hsh
  case noPong =>
    intro n dl ht
    refine outInv_close h hc rfl .timeoutPing ?_
    cases hph : s.phase with
    | authed iv =>
      have r := hs.waiting hc hph ht
      exact ⟨iv, rfl, r.dl_eq, List.mem_append_left _ (r.n_eq ▸ h.ping_sent _ _ ht)⟩
    | _ => simp only [hph, ht] at hsh
  case sleptActive => exact fun _ _ _ _ _ _ => { h with ping_sent := nofun }
  case sleptIdleParked => exact fun _ => outInv_close h hc rfl _ trivial
  case sleptIdlePing =>
    intro w last iv _ _ _ _
    -- the frame written is the PING that the task now waits for; `error` reads `pings` and `pingAt`, but there is no ERROR
    exact { outInv_write h hc w (f := .ping (s.pings + 1)) nofun nofun nofun with
      error := h.error_write hc rfl nofun
      ping_sent := fun _ _ ht => by cases ht; exact List.mem_append_right _ (List.mem_singleton.mpr rfl) }

theorem outInv_step (s : St) (e : Ev) (hs : Shape s) (h : OutInv s) : OutInv (step s e) := by
  cases hc : s.closed with
  | true => rwa [step_of_closed hc]
  | false =>
    -- a connection that is still connecting has been sent no ACK, so the one that answers its CONNECT is the only one
    have firstAck : ∀ {req t hb}, s.phase = .connecting → (t, Frame.ack hb) ∈ s.out ++ [(s.now, .ack (s.cfg.clamp req))] →
        hb = s.cfg.clamp req := fun hph hm =>
      (List.mem_append.mp hm).elim (fun ho => absurd hph (h.ack _ _ ho).1) fun hn => by cases List.mem_singleton.mp hn; rfl
    refine step_cases s hc ?ignored ?waitTick ?expiry ?connectTwoPhase ?connectDirect ?authOk ?authRetry ?request ?pongMatched
      ?pongParked ?deliver ?peerClose ?refused e
    case ignored => exact h
    case expiry => exact outInv_fire s hs h hc
    -- no clause reads `now`, `slot`, `activity` or `lastAct`
    case waitTick => exact fun _ _ _ => { h with }
    case pongParked => exact fun _ _ _ _ _ _ => { h with }
    case pongMatched => exact fun _ _ _ _ _ => { h with ping_sent := nofun }
    case authRetry => exact outInv_write h hc _ nofun nofun nofun
    case request => exact fun _ _ => { outInv_write h hc s.now (f := .reply) nofun nofun nofun with }
    case deliver => exact outInv_write h hc _ nofun nofun nofun
    case peerClose => exact { h with error := fun t r hm => absurd hm (outInv_noerr h hc t r), ping_sent := nofun }
    case refused =>
      rintro r (rfl | rfl | rfl) <;> exact outInv_close h hc rfl _ trivial
    case connectTwoPhase =>
      intro req hph
      exact {
        error := h.error_write hc rfl nofun
        ack := fun t hb hm => ⟨nofun, req, firstAck hph hm⟩
        authOk := fun t hm => have ⟨_, h'⟩ := h.authOk t (mem_out_of_ne hm nofun); nomatch hph.symm.trans h'
        ack_at := fun iv hiv => by cases hiv; exact List.mem_append_right _ (List.mem_singleton.mpr rfl)
        ping_sent := nofun }
    case connectDirect =>
      intro req hph
      exact {
        error := h.error_write hc rfl nofun
        ack := fun t hb hm => ⟨nofun, req, firstAck hph hm⟩
        authOk := fun _ _ => ⟨_, rfl⟩
        ack_at := nofun
        ping_sent := nofun }
    case authOk =>
      intro iv hph
      exact {
        error := h.error_write hc rfl nofun
        ack := fun t hb hm => ⟨nofun, (h.ack t hb (mem_out_of_ne hm nofun)).2⟩
        authOk := fun _ _ => ⟨_, rfl⟩
        ack_at := nofun
        ping_sent := nofun }

/-- the states a connection opened at `t0` can be in -/
def Reach (c : Cfg) (t0 : Nat) (s : St) : Prop := ∃ evs, s = run (init c t0) evs

theorem reach_inv {c : Cfg} {t0 : Nat} (hp : c.Pos) {s : St} (hr : Reach c t0 s) :
    s.cfg = c ∧ s.opened = t0 ∧ Shape s ∧ OutInv s := by
  obtain ⟨evs, rfl⟩ := hr
  refine List.foldlRecOn (motive := fun s => s.cfg = c ∧ s.opened = t0 ∧ Shape s ∧ OutInv s) evs step
    ⟨rfl, rfl, shape_init c t0 hp, outInv_init c t0⟩ ?_
  rintro s ⟨h1, h2, h3, h4⟩ e -
  exact ⟨(step_cfg_opened s e).1.trans h1, (step_cfg_opened s e).2.trans h2, shape_step s e (h1 ▸ hp) h3, outInv_step s e h3 h4⟩

/-- **C20 (connect deadline, fires)**: a connection that has not completed CONNECT is never open at or after
    `opened + connect_timeout`; **(does not fire otherwise)**: a TIMEOUT for the connect phase is written only at exactly
    that instant and only to a connection that never got a CONNECT acknowledgement. -/
theorem C20_connect_deadline (c : Cfg) (t0 : Nat) (hp : c.Pos) (s : St) (hr : Reach c t0 s) :
    (s.closed = false → s.phase = .connecting → s.now < t0 + c.connectTimeout) ∧
    (∀ t, (t, Frame.error .timeoutConnect) ∈ s.out →
        t = t0 + c.connectTimeout ∧ ∀ t' hb, (t', Frame.ack hb) ∉ s.out) := by
  obtain ⟨rfl, rfl, hsh, ho⟩ := reach_inv hp hr
  refine ⟨fun hc hph => (hsh.connecting hc hph).now_lt, fun t ht => ?_⟩
  obtain ⟨hph, rfl⟩ := (ho.error t _ ht).2
  exact ⟨rfl, fun t' hb hm => (ho.ack t' hb hm).1 hph⟩

/-- **C20 (authenticate deadline)**: a connected, unauthenticated connection is never open at or after the instant
    `authenticate_timeout` after its CONNECT acknowledgement — whatever authentication attempts it made meanwhile —
    and a TIMEOUT for the authentication phase is written only at exactly that instant, only to a connection that was never
    told it is authenticated. -/
theorem C20_auth_deadline (c : Cfg) (t0 : Nat) (hp : c.Pos) (s : St) (hr : Reach c t0 s) :
    (∀ iv, s.closed = false → s.phase = .connected iv →
        (s.phaseAt, Frame.ack iv) ∈ s.out ∧ s.now < s.phaseAt + c.authTimeout) ∧
    (∀ t, (t, Frame.error .timeoutAuth) ∈ s.out →
        (∃ iv, (s.phaseAt, Frame.ack iv) ∈ s.out) ∧ t = s.phaseAt + c.authTimeout ∧ ∀ t', (t', Frame.authOk) ∉ s.out) := by
  obtain ⟨rfl, -, hsh, ho⟩ := reach_inv hp hr
  refine ⟨fun iv hc hph => ⟨ho.ack_at iv hph, (hsh.connected hc hph).now_lt⟩, fun t ht => ?_⟩
  obtain ⟨iv, hph, rfl⟩ := (ho.error t _ ht).2
  refine ⟨⟨iv, ho.ack_at iv hph⟩, rfl, fun t' hm => ?_⟩
  obtain ⟨iv', hph'⟩ := ho.authOk t' hm
  cases hph.symm.trans hph'

/-- **C20 (negotiation, on the wire)**: every CONNECT acknowledgement announces the clamped value of some request. -/
theorem C20_announced_is_clamped (c : Cfg) (t0 : Nat) (hp : c.Pos) (s : St) (hr : Reach c t0 s) (t hb : Nat)
    (h : (t, Frame.ack hb) ∈ s.out) :
    c.minKeepAlive ≤ hb ∧ hb ≤ c.keepAlive ∧ ∃ req, hb = c.clamp req := by
  obtain ⟨rfl, -, -, ho⟩ := reach_inv hp hr
  obtain ⟨req, rfl⟩ := (ho.ack t hb h).2
  have := C20_clamp s.cfg hp.2.2.2 req
  exact ⟨this.1, this.2.1, req, rfl⟩

/-- **C20 (skip ping when active)**: the keep-alive task writes a PING only when the connection's last activity
    (authentication, request, answered PING) is at least one whole interval old. -/
theorem C20_ping_only_when_silent (s : St) (h : Shape s) (iv : Nat) (hc : s.closed = false) (hph : s.phase = .authed iv)
    (hping : (step s .fire).pings = s.pings + 1) : s.lastAct + iv ≤ (step s .fire).now := by
  rw [step_fire] at hping ⊢
  rcases h.authed hc hph with ⟨w, last, ht⟩ | ⟨n, dl, ht⟩
  · by_cases ha : s.activity = last
    · -- whether the PING goes out or meets a parked PONG, the time is `w`
      have := ((h.sleeping hc hph ht).idle ha).1
      obtain ⟨-, hf⟩ | ⟨-, hf⟩ := fire_idle hc hph ht ha <;> rw [hf] <;> exact this
    · rw [fire_active hc hph ht ha] at hping
      exact absurd hping (Nat.ne_of_lt (Nat.lt_succ_self _))
  · -- a PING deadline that expires sends no PING
    rw [fire_waiting hc ht] at hping
    exact absurd hping (Nat.ne_of_lt (Nat.lt_succ_self _))

/-- `h2`: the PING written at `w` has not timed out by `t`, so nothing else expires -/
theorem idle_is_pinged {s : St} {iv w : Nat} (hc : s.closed = false) (hph : s.phase = .authed iv)
    (ht : s.task = .sleeping w s.activity) {t : Nat} (h1 : w ≤ t) (h2 : t < w + 3 * iv) (fuel : Nat) :
    (w, Frame.ping (s.pings + 1)) ∈ (advance (fuel + 1) s t).out ∨
    s.slot ≠ none ∧ (advance (fuel + 1) s t).closed = true ∧ (w, Frame.error .badRequest) ∈ (advance (fuel + 1) s t).out := by
  rw [advance_fire hc (by rw [due, ht]) h1]
  obtain ⟨-, hf⟩ | ⟨hsl, hf⟩ := fire_idle hc hph ht rfl <;> rw [hf]
  · left
    rw [advance_wait (.inr (by simp [due, pingTimeoutFactor]; omega))]
    rcases step_wait _ t with hw | hw <;> rw [hw] <;> simp
  · right
    rw [advance_wait (.inl rfl), step_of_closed rfl]
    exact ⟨hsl, rfl, by simp [closeWith]⟩

/-- **C20 (silent connections are pinged within two intervals)**: from any state of an open authenticated connection
    whose keep-alive task is asleep, if nothing but time happens then by `lastAct + 2·interval` a PING has been written —
    unless an unsolicited PONG was waiting, in which case the connection has been closed with BAD_REQUEST instead. -/
theorem C20_silent_is_pinged (s : St) (h : Shape s) (iv : Nat) (hc : s.closed = false) (hph : s.phase = .authed iv)
    (w last : Nat) (ht : s.task = .sleeping w last) :
    let s' := advance 2 s (s.lastAct + 2 * iv)
    (∃ t, s.now < t ∧ t ≤ s.lastAct + 2 * iv ∧ (t, Frame.ping (s.pings + 1)) ∈ s'.out) ∨
    (s.slot ≠ none ∧ s'.closed = true ∧ ∃ t, s.now < t ∧ t ≤ s.lastAct + 2 * iv ∧ (t, Frame.error .badRequest) ∈ s'.out) := by
  intro s'
  have { iv_pos, now_lt, lastAct_le, idle, active, .. } := h.sleeping hc hph ht
  -- it is enough to name the wake-up that finds the activity counter unchanged
  suffices ∃ w', s.now < w' ∧ w' ≤ s.lastAct + 2 * iv ∧ ((w', Frame.ping (s.pings + 1)) ∈ s'.out ∨
      s.slot ≠ none ∧ s'.closed = true ∧ (w', Frame.error .badRequest) ∈ s'.out) by
    obtain ⟨w', g1, g2, hp | ⟨a, b, c⟩⟩ := this
    · exact .inl ⟨w', g1, g2, hp⟩
    · exact .inr ⟨a, b, w', g1, g2, c⟩
  by_cases ha : s.activity = last
  · subst ha
    have := idle rfl
    exact ⟨w, now_lt, this.2, idle_is_pinged hc hph ht this.2 (by omega) 1⟩
  · -- the first wake-up finds the counter moved and puts the task to sleep for one more interval; the second is the one.
    -- These two expiries are all that can happen by `lastAct + 2·iv`: hence the fuel in `advance 2`
    have := active ha
    have hs' : s' = advance 1 (fire s) _ := advance_fire hc (by rw [due, ht]) (by omega) 1
    rw [hs', fire_active hc hph ht ha]
    exact ⟨w + iv, by omega, by omega,
      idle_is_pinged (s := { s with now := w, task := .sleeping (w + iv) s.activity }) hc hph rfl (by omega) (by omega) 0⟩

/-- **C20 (PONG in time)**: while PING `n` is outstanding, a PONG carrying its id keeps the connection open, writes
    nothing, and sends the keep-alive task back to sleep for one interval from now. -/
theorem C20_pong_in_time (s : St) (h : Shape s) (iv : Nat) (hc : s.closed = false) (hph : s.phase = .authed iv)
    (n dl : Nat) (ht : s.task = .waiting n dl) :
    (step s (.pong n)).closed = false ∧ (step s (.pong n)).out = s.out ∧
    (step s (.pong n)).task = .sleeping (s.now + iv) s.activity ∧ s.now < s.pingAt + 3 * iv := by
  have r := h.waiting hc hph ht
  rw [step_pong_waiting hc hph ht r.slot, if_pos (if_pos ⟨r.n_pos, Nat.le_of_eq r.n_eq⟩)]
  exact ⟨hc, rfl, rfl, r.dl_eq ▸ r.now_lt⟩

/-- **C20 (PONG with a different id)**: while PING `n` is outstanding, a PONG carrying any other id gets the connection
    closed with BAD_REQUEST at once. -/
theorem C20_pong_wrong_id (s : St) (h : Shape s) (iv : Nat) (hc : s.closed = false) (hph : s.phase = .authed iv)
    (n dl m : Nat) (ht : s.task = .waiting n dl) (hm : m ≠ n) :
    step s (.pong m) = closeWith s .badRequest := by
  have { n_pos, slot, .. } := h.waiting hc hph ht
  rw [step_pong_waiting hc hph ht slot, if_neg]
  -- the id is read as `m`, which is not the awaited one, or as `0`, and a PING has been sent
  split <;> omega

/-- **C20 (no PONG)**: the outstanding PING expires exactly three intervals after it was written, and the connection is
    then closed with TIMEOUT. -/
theorem C20_no_pong_times_out (s : St) (h : Shape s) (iv : Nat) (hc : s.closed = false) (hph : s.phase = .authed iv)
    (n dl : Nat) (ht : s.task = .waiting n dl) :
    dl = s.pingAt + 3 * iv ∧ step s .fire = closeWith { s with now := dl } .timeoutPing :=
  ⟨(h.waiting hc hph ht).dl_eq, (step_fire s).trans (fire_waiting hc ht)⟩

/-- **C20 (TIMEOUT only for an unanswered PING)**: in every reachable state, a keep-alive TIMEOUT on the wire was written
    exactly three intervals after the last PING, which is on the wire too; by `C20_pong_in_time` a matching PONG before
    that instant would have taken the keep-alive task out of its waiting state, and only that state expires this way. -/
theorem C20_ping_timeout_only_unanswered (c : Cfg) (t0 : Nat) (hp : c.Pos) (s : St) (hr : Reach c t0 s) (t : Nat)
    (h : (t, Frame.error .timeoutPing) ∈ s.out) :
    ∃ iv, s.phase = .authed iv ∧ t = s.pingAt + 3 * iv ∧ (s.pingAt, Frame.ping s.pings) ∈ s.out := by
  obtain ⟨-, -, -, ho⟩ := reach_inv hp hr
  exact (ho.error t _ h).2

/-- an unsolicited PONG (no PING outstanding) is parked; it does not count as activity and writes nothing -/
theorem C20_unsolicited_pong_parked (s : St) (iv : Nat) (hc : s.closed = false) (hph : s.phase = .authed iv)
    (w last m : Nat) (ht : s.task = .sleeping w last) (hs : s.slot = none) :
    (step s (.pong m)).closed = false ∧ (step s (.pong m)).out = s.out ∧ (step s (.pong m)).activity = s.activity ∧
    (step s (.pong m)).task = s.task ∧ (step s (.pong m)).slot ≠ none := by
  simp only [step, hc, hph, ht, hs, Bool.false_eq_true, if_false, true_and]
  exact nofun

/-- a second unsolicited PONG is refused at once (the connection loop never waits for the keep-alive task) -/
theorem C20_second_unsolicited_pong_closes (s : St) (iv : Nat) (hc : s.closed = false) (hph : s.phase = .authed iv)
    (w last m v : Nat) (ht : s.task = .sleeping w last) (hs : s.slot = some v) :
    step s (.pong m) = closeWith s .badRequest := by
  simp only [step, hc, hph, ht, hs, Bool.false_eq_true, if_false]

def Ev.quiet : Ev → Bool
  | .wait _ | .fire | .request => true
  | _ => false

/-- runs `evs` (time passing, expiries, requests) and checks after every event that the client's last request is less
    than one interval old -/
def runActive (iv : Nat) : St → List Ev → Option St
  | s, [] => some s
  | s, e :: es =>
    if e.quiet ∧ (step s e).now < (step s e).lastAct + iv then runActive iv (step s e) es else none

theorem active_step (s : St) (h : Shape s) (iv : Nat) (hc : s.closed = false) (hph : s.phase = .authed iv)
    (hsl : ∃ w last, s.task = .sleeping w last) (e : Ev) (hq : e.quiet = true)
    (hact : (step s e).now < (step s e).lastAct + iv) :
    (step s e).closed = false ∧ (step s e).phase = .authed iv ∧ (∃ w last, (step s e).task = .sleeping w last) ∧
    (step s e).pings = s.pings ∧ ∀ p ∈ (step s e).out, p ∈ s.out ∨ p = (s.now, Frame.reply) := by
  obtain ⟨w, last, ht⟩ := hsl
  cases e with
  | wait t => rcases step_wait s t with hw | hw <;> rw [hw] <;> exact ⟨hc, hph, ⟨w, last, ht⟩, rfl, fun _ => .inl⟩
  | fire =>
    rw [step_fire] at hact ⊢
    by_cases ha : s.activity = last
    · -- an unchanged counter would mean that the last activity is a whole interval old when the task wakes up at `w`
      have := ((h.sleeping hc hph ht).idle ha).1
      obtain ⟨-, hf⟩ | ⟨-, hf⟩ := fire_idle hc hph ht ha <;> rw [hf] at hact <;> exact absurd hact (by simp [closeWith]; omega)
    · rw [fire_active hc hph ht ha]
      exact ⟨hc, hph, ⟨_, _, rfl⟩, rfl, fun _ => .inl⟩
  | request =>
    rw [step_request hc hph]
    exact ⟨hc, hph, ⟨w, last, ht⟩, rfl, fun p hm => (List.mem_append.mp hm).imp_right List.mem_singleton.mp⟩
  | _ => cases hq

/-- **C20 (active connections)**: an authenticated connection that sends a request at least once per interval — checked
    after every event: the last request is less than one interval old — is never pinged and never closed, however long
    that goes on and however its requests are timed relative to the keep-alive task's wake-ups. -/
theorem C20_active_not_pinged (iv : Nat) (evs : List Ev) (s s' : St) (h : Shape s) (hp : s.cfg.Pos) (hc : s.closed = false)
    (hph : s.phase = .authed iv) (hsl : ∃ w last, s.task = .sleeping w last) (hrun : runActive iv s evs = some s') :
    s'.closed = false ∧ s'.pings = s.pings ∧ (∀ t n, (t, Frame.ping n) ∈ s'.out → (t, Frame.ping n) ∈ s.out) ∧
    (∀ t r, (t, Frame.error r) ∈ s'.out → (t, Frame.error r) ∈ s.out) := by
  induction evs generalizing s with
  | nil =>
    cases hrun
    exact ⟨hc, rfl, fun _ _ h => h, fun _ _ h => h⟩
  | cons e es ih =>
    simp only [runActive] at hrun
    split at hrun
    · next hg =>
      obtain ⟨a1, a2, a3, a4, sub⟩ := active_step s h iv hc hph hsl e hg.1 hg.2
      obtain ⟨b1, b2, b3, b4⟩ := ih (step s e) (shape_step s e hp h) ((step_cfg_opened s e).1 ▸ hp) a1 a2 a3 hrun
      exact ⟨b1, b2.trans a4, fun t n hm => (sub _ (b3 t n hm)).resolve_right nofun,
        fun t r hm => (sub _ (b4 t r hm)).resolve_right nofun⟩
    · cases hrun

/-- **C20 (shutdown reaches every connection state)**: whatever state an open connection is in — not yet connected,
    connected, authenticated, asleep or waiting for a PONG, with or without a parked PONG — shutdown writes
    SERVER_SHUTTING_DOWN to it at once, closes it and cancels its scheduled task. -/
theorem C20_shutdown_closes (s : St) (hc : s.closed = false) :
    (step s .shutdown).closed = true ∧ (step s .shutdown).task = .idle ∧
    (step s .shutdown).out = s.out ++ [(s.now, Frame.error .shuttingDown), (s.now, Frame.eof)] := by
  simp only [step, hc, closeWith, Bool.false_eq_true, if_false, and_self]

/-- **C20 (shutdown completes)**: after shutdown every connection of the listener is closed (which is what the
    manager waits for), and connections that were already closed are left as they were. -/
theorem C20_shutdown_all (cs : List St) :
    (∀ s' ∈ shutdownAll cs, s'.closed = true) ∧ (shutdownAll cs).length = cs.length ∧
    (∀ s ∈ cs, s.closed = true → s ∈ shutdownAll cs) := by
  refine ⟨?_, by simp [shutdownAll], fun s hm hc => List.mem_map.2 ⟨s, hm, step_of_closed hc _⟩⟩
  intro s' hm
  obtain ⟨s, _, rfl⟩ := List.mem_map.1 hm
  by_cases hc : s.closed = true
  · rwa [step_of_closed hc]
  · exact (C20_shutdown_closes s (Bool.not_eq_true _ ▸ hc)).1

/-- a closed connection is final: no expiry, request or PONG changes it or writes to it again -/
theorem C20_closed_is_final (s : St) (hc : s.closed = true) (evs : List Ev) : run s evs = s :=
  List.foldlRecOn (motive := (· = s)) evs step rfl fun _ h e _ => h ▸ step_of_closed hc e

/-- failed or partial authentication attempts neither restart nor extend the authentication deadline -/
theorem C20_auth_retry_keeps_deadline (s : St) (iv : Nat) (hc : s.closed = false) (hph : s.phase = .connected iv) :
    (step s .authRetry).task = s.task ∧ (step s .authRetry).phaseAt = s.phaseAt ∧ (step s .authRetry).closed = false := by
  simp only [step, hc, hph, Bool.false_eq_true, if_false, and_self]

/-- the state with the server-initiated frames removed from what the peer has read -/
def strip (s : St) : St := { s with out := s.out.filter (fun p => p.2 ≠ Frame.pushed) }

theorem due_strip (s : St) : due (strip s) = due s := rfl

/-- `fire` reads every field but `out`, and `out` is all that `strip` changes: the conditions of each branch of `fire s`
    (hypotheses after `fun_cases`; `fire_cases` keeps none for the arms it merges into `ignored`) take `fire (strip s)` down
    the same branch, and the frames appended there (a PING; an ERROR and `eof`) pass the filter. -/
theorem strip_fire (s : St) : strip (fire s) = fire (strip s) := by
  fun_cases fire s <;> simp [fire, strip, closeWith, List.filter_append, *]

/-- as `strip_fire`, for the branches of `step s e`: no frame that an event other than `deliver` appends is `pushed` -/
theorem strip_step (s : St) (e : Ev) (he : e ≠ .deliver) : strip (step s e) = step (strip s) e := by
  by_cases hf : e = .fire
  · rw [hf, step_fire, step_fire, strip_fire]
  -- `he`, `hf` dismiss the branches of `deliver` and `fire`.  The one condition that is not about a field is that of `wait`
  -- on `due s`, hence `due_strip`, with `↓` so that `due (strip s)` is met before `strip` is unfolded under it.
  -- `zetaDelta`: the `let`s of the CONNECT branch
  fun_cases step s e <;> simp +zetaDelta [step, strip, ↓ due_strip, closeWith, startPing, List.filter_append, *] at he hf ⊢

theorem strip_deliver (s : St) : strip (step s .deliver) = strip s := by
  rcases step_deliver s with h | h <;> rw [h]
  simp [strip, List.filter_append]

/-- **C20 (only the peer's own activity counts)**: whatever is routed to a connection, and whenever, every timer
    decision and every frame the keep-alive machinery writes (acknowledgements, PINGs, errors, with their time stamps)
    is exactly what it would have been without those deliveries.  In particular a connection that sends nothing is
    pinged and timed out on the same schedule however busy the channels it listens to are. -/
theorem C20_deliveries_invisible (s : St) (evs : List Ev) :
    strip (run s evs) = run (strip s) (evs.filter (fun e => e ≠ Ev.deliver)) := by
  induction evs generalizing s with
  | nil => rfl
  | cons e es ih =>
    by_cases he : e = .deliver
    · subst he
      rw [List.filter_cons_of_neg (by simp)]
      exact (ih _).trans (congrArg (run · _) (strip_deliver s))
    · rw [List.filter_cons_of_pos (by simpa using he)]
      exact (ih _).trans (congrArg (run · _) (strip_step s e he))

/-- a delivery reaches only a registered (authenticated) connection and writes exactly one frame to it -/
theorem C20_deliver_inert (s : St) :
    (step s .deliver).task = s.task ∧ (step s .deliver).activity = s.activity ∧ (step s .deliver).slot = s.slot ∧
    (step s .deliver).phase = s.phase ∧ (step s .deliver).closed = s.closed ∧ (step s .deliver).now = s.now := by
  rcases step_deliver s with h | h <;> rw [h] <;> exact ⟨rfl, rfl, rfl, rfl, rfl, rfl⟩

-- non-vacuity
def exCfg : Cfg := { link := .c2s, connectTimeout := 100, authTimeout := 50, keepAlive := 30, minKeepAlive := 10 }

example : exCfg.Pos := by simp [Cfg.Pos, exCfg]
-- connect (requesting 5 → clamped to 10), authenticate, stay silent: PING#1 at 20+10, TIMEOUT three intervals later
example : (run (init exCfg 0) [.wait 20, .connect 5, .authOk, .fire, .fire]).out =
    [(20, .ack 10), (20, .authOk), (30, .ping 1), (60, .error .timeoutPing), (60, .eof)] := by decide
-- a matching PONG keeps it open; an active client is then never pinged
example : (runActive 10 (run (init exCfg 0) [.connect 5, .authOk, .fire, .wait 12, .pong 1])
    [.wait 15, .request, .fire, .wait 24, .request, .fire, .request]).map (fun s => (s.closed, s.pings)) = some (false, 1) := by decide
-- a silent listener on a busy channel is pinged and timed out on schedule
example : (run (init exCfg 0) [.connect 5, .authOk, .wait 4, .deliver, .wait 9, .deliver, .fire, .wait 15, .deliver, .deliver, .fire]).out =
    [(0, .ack 10), (0, .authOk), (4, .pushed), (9, .pushed), (10, .ping 1), (15, .pushed), (15, .pushed),
     (40, .error .timeoutPing), (40, .eof)] := by decide
-- never connected: closed at exactly the deadline
example : (run (init exCfg 7) [.wait 106, .fire]).out = [(107, .error .timeoutConnect), (107, .eof)] := by decide
-- failed attempts do not move the authentication deadline
example : (run (init exCfg 0) [.connect 0, .wait 40, .authRetry, .wait 49, .fire]).out =
    [(0, .ack 30), (40, .authRetry), (50, .error .timeoutAuth), (50, .eof)] := by decide

end Narwhal.Timers

#print axioms Narwhal.Timers.timers_table_ok
#print axioms Narwhal.Timers.clampC2s_spec
#print axioms Narwhal.Timers.clampS2m_spec
#print axioms Narwhal.Timers.clampM2s_spec
#print axioms Narwhal.Timers.C20_clamp
#print axioms Narwhal.Timers.shape_step
#print axioms Narwhal.Timers.outInv_step
#print axioms Narwhal.Timers.C20_connect_deadline
#print axioms Narwhal.Timers.C20_auth_deadline
#print axioms Narwhal.Timers.C20_announced_is_clamped
#print axioms Narwhal.Timers.C20_ping_only_when_silent
#print axioms Narwhal.Timers.C20_silent_is_pinged
#print axioms Narwhal.Timers.C20_pong_in_time
#print axioms Narwhal.Timers.C20_pong_wrong_id
#print axioms Narwhal.Timers.C20_no_pong_times_out
#print axioms Narwhal.Timers.C20_ping_timeout_only_unanswered
#print axioms Narwhal.Timers.C20_unsolicited_pong_parked
#print axioms Narwhal.Timers.C20_second_unsolicited_pong_closes
#print axioms Narwhal.Timers.C20_active_not_pinged
#print axioms Narwhal.Timers.C20_shutdown_closes
#print axioms Narwhal.Timers.C20_shutdown_all
#print axioms Narwhal.Timers.C20_closed_is_final
#print axioms Narwhal.Timers.C20_auth_retry_keeps_deadline
#print axioms Narwhal.Timers.C20_deliveries_invisible
#print axioms Narwhal.Timers.C20_deliver_inert
