import Narwhal.Lemmas.Handlers
import Narwhal.Lemmas.Invariants
/-!
# C18 — membership events are a faithful change log

What each membership-changing request emits, read off the model: a successful JOIN routes exactly one
`MEMBER_JOINED(channel, new member, owner = created)` to every connection of every member except the
requesting connection; a successful LEAVE / kick routes `MEMBER_LEFT(channel, member, owner = was owner)`
likewise and, when the owner left, one `MEMBER_JOINED(owner = true)` for the successor to every remaining
member's connections; refused requests route no EVENT at all.
-/
namespace Narwhal.Server

/-- **refused ⇒ no event** (recoverable refusals; a non-recoverable one only emits the clean-up events of
    the requester's own disconnection, which *are* membership changes) -/
theorem C18_refused_no_event (s : Srv) (k : Nat) (i : Option Nat) (r : Reason) (env : Env) (hr : r.recoverable = true) :
    ∀ e ∈ (fail s k i r env).2, e.frame.isEvent = false := by
  intro e he
  rw [fail_stays s k i env hr, List.mem_singleton] at he
  subst he; rfl

/-- **JOIN**: the events of an admitted join -/
theorem C18_join_events (s : Srv) (k : Nat) (u : Str) (id : Nat) (raw : Str) (ob : Option Str) (env : Env) (h m : Str)
    (hc : joinCheck s u id raw ob = .ok (h, m)) (hev : notifyFails s env = false) :
    doJoin s k u id raw ob env =
      (joinedState s h m,
        routeTo (joinedState s h m) (withMember s.cfg.domain (chanOrNew s h) m).members (some k)
          (.event .joined (fullChan s h) (fullNid s m) (findChan s.chans h).isNone)
        ++ [{ conn := k, frame := .joinAck id raw }]) := by
  rw [doJoin_admitted hc, if_neg (ne_true_of_eq_false hev)]
  rfl

/-- the new member is among the notified members (so its *other* connections learn of the join) and the
    requesting connection is not notified -/
theorem C18_join_targets (s : Srv) (h m : Str) :
    m ∈ (withMember s.cfg.domain (chanOrNew s h) m).members ∧
      ∀ t ∈ (chanOrNew s h).members, t ∈ (withMember s.cfg.domain (chanOrNew s h) m).members := by
  rw [withMember_members]
  exact ⟨List.mem_append_right _ (List.mem_singleton.mpr rfl), fun t ht => List.mem_append_left _ ht⟩

/-- **JOIN whose notification the modulator refuses**: no state change (rolled back), no event, the
    request fails as a whole -/
theorem C18_join_notify_failed (s : Srv) (k : Nat) (u : Str) (id : Nat) (raw : Str) (ob : Option Str) (env : Env) (h m : Str)
    (hc : joinCheck s u id raw ob = .ok (h, m)) (hev : notifyFails s env = true) :
    doJoin s k u id raw ob env = fail s k none .internalServerError env := by
  rw [doJoin_admitted hc, if_pos hev]

/-- **LEAVE / kick**: the events of an admitted leave -/
theorem C18_leave_events (s : Srv) (k : Nat) (u : Str) (id : Nat) (raw : Str) (ob : Option Str) (env : Env)
    (c : Chan) (m : Str) (hc : leaveCheck s u id raw ob = .ok (c, m)) (hev : handoverFails s env = false) :
    (doLeave s k u id raw ob env).2 =
      routeTo s c.members (some k) (.event .left (fullChan s c.handler) (fullNid s m) (c.owner = some m))
        ++ [{ conn := k, frame := .leaveAck id }] ++ (removeMember s c m env).2.1 := by
  have hn : ¬ notifyFails s env = true := by
    intro h; simp [handoverFails, h] at hev
  have hok : (removeMember s c m env).2.2 = true :=
    Bool.of_not_eq_false fun h => nomatch hev.symm.trans ((removeMember_flag s c m env).mp h).2.2
  rw [doLeave_admitted hc, if_neg hn, leaveTail, if_pos hok]
  rfl

/-- **hand-over**: when the departing member owned the channel and somebody remains, every remaining
    member's connections get exactly the `MEMBER_JOINED owner=true` of the successor, who is a remaining member -/
theorem C18_handover_events (s : Srv) (c : Chan) (u : Str) (env : Env)
    (hne : (withoutMember s.cfg.domain c u).members.isEmpty = false) (ho : c.owner = some u)
    (hev : handoverFails s env = false) :
    (removeMember s c u env).2.1 =
      routeTo s (withoutMember s.cfg.domain c u).members none
        (.event .joined (fullChan s c.handler) (fullNid s (pickOwner env (withoutMember s.cfg.domain c u) u)) true) ∧
    pickOwner env (withoutMember s.cfg.domain c u) u ∈ (withoutMember s.cfg.domain c u).members := by
  constructor
  · rw [removeMember_events, if_pos ⟨hne, ho, hev⟩, handoverEvents, afterRemoval_members, afterRemoval_handler]
    rfl
  · apply pickOwner_mem
    intro h; simp [h] at hne

/-- when the modulator refuses the hand-over announcement the new owner is recorded all the same (the channel is never left
    without an owner) but nobody is told — the residue recorded as known finding for the disconnect clean-up -/
theorem C18_handover_refused (s : Srv) (c : Chan) (u : Str) (env : Env)
    (hne : (withoutMember s.cfg.domain c u).members.isEmpty = false) (ho : c.owner = some u)
    (hev : handoverFails s env = true) :
    (removeMember s c u env).2.1 = [] ∧ (removeMember s c u env).2.2 = false ∧
    ∃ c', findChan (removeMember s c u env).1.chans c.handler = some c' ∧
      c'.owner = some (pickOwner env (withoutMember s.cfg.domain c u) u) := by
  refine ⟨?_, (removeMember_flag s c u env).mpr ⟨hne, ho, hev⟩, afterRemoval s.cfg.domain env c u, ?_, ?_⟩
  · rw [removeMember_events, if_neg fun h => nomatch h.2.2.symm.trans hev]
  · rw [removeMember_fst]
    show findChan (if _ then _ else _) _ = _
    rw [hne, if_neg Bool.false_ne_true, findChan_putChan, if_pos (afterRemoval_handler ..)]
  · rw [afterRemoval, if_pos ho]

/-- no hand-over event when a non-owner leaves or the channel empties -/
theorem C18_no_spurious_handover (s : Srv) (c : Chan) (u : Str) (env : Env)
    (h : (withoutMember s.cfg.domain c u).members.isEmpty = true ∨ c.owner ≠ some u) :
    (removeMember s c u env).2.1 = [] := by
  rw [removeMember_events, if_neg]
  exact fun ⟨hne, ho, _⟩ => h.elim (fun he => nomatch hne.symm.trans he) (· ho)

/-- **one event per connection**: `routeTo` gives a connection as many copies as it is registered under
    the notified users — exactly one under the router invariants (a connection belongs to one user, once) -/
theorem C18_one_event_per_connection (s : Srv) (us : List Str) (excl : Option Nat) (f : Frame) (k' : Nat) (t : Str)
    (hk : some k' ≠ excl) (ht : t ∈ us) (hnodup : us.Nodup)
    (honce : ((connsOf s t).filter (· = k')).length = 1)
    (hother : ∀ t' ∈ us, t' ≠ t → k' ∉ connsOf s t') :
    ((routeTo s us excl f).filter (fun e => e.conn = k')).length = 1 :=
  routeTo_once s us excl f k' t hk ht hnodup honce hother

end Narwhal.Server

#print axioms Narwhal.Server.C18_refused_no_event
#print axioms Narwhal.Server.C18_join_events
#print axioms Narwhal.Server.C18_join_targets
#print axioms Narwhal.Server.C18_join_notify_failed
#print axioms Narwhal.Server.C18_leave_events
#print axioms Narwhal.Server.C18_handover_events
#print axioms Narwhal.Server.C18_no_spurious_handover
#print axioms Narwhal.Server.C18_one_event_per_connection
