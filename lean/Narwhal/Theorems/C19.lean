import Narwhal.Model.Pool
/-!
# C19 — buffer pools: permits and buffers never drift apart; acquiring never panics; everything comes back

`PoolInv` (the buffers are counted, the permits are counted, every frozen buffer has a handle) holds over **every**
schedule of the pool's micro-steps: any number of tasks/threads, any interleaving of acquire / freeze / clone / drop /
batch release.

Consequences: `pop().unwrap()` never sees an empty queue; `available + in_use = capacity`; once every
holder is gone all buffers and all permits are back; an acquirer waits only while no permit exists, which at
rest means the queue is empty.
-/
namespace Narwhal.Pool

def PoolInv (s : St) : Prop :=
  s.queue.length + s.muts.length + s.shared.length = s.cap ∧
  s.permits + s.acquiring + s.muts.length + s.shared.length + s.dropping + s.pendingAdd = s.cap ∧
  (∀ p ∈ s.shared, 1 ≤ p.2) ∧ (s.muts.Nodup ∧ (s.shared.map (·.1)).Nodup)

/-- every buffer id occurs exactly once across the queue, the mutable holders and the frozen buffers -/
def Excl (s : St) : Prop := (s.queue ++ s.muts ++ s.shared.map (·.1)).Nodup

theorem count_some_mem {sh : List (Nat × Nat)} {id c : Nat} (h : count sh id = some c) : (id, c) ∈ sh := by
  induction sh with
  | nil => simp [count] at h
  | cons p rest ih =>
    simp only [count] at h
    split at h
    · next he => cases h; subst he; simp
    · exact List.mem_cons_of_mem _ (ih h)

theorem setCount_keys (sh : List (Nat × Nat)) (id c : Nat) : (setCount sh id c).map (·.1) = sh.map (·.1) := by
  simp only [setCount, List.map_map]
  refine List.map_congr_left fun p _ => ?_
  show (if p.1 = id then (id, c) else p).1 = p.1
  split
  · next h => exact h.symm
  · rfl

theorem removeShared_keys {sh : List (Nat × Nat)} (id : Nat) (hk : (sh.map (·.1)).Nodup) :
    (removeShared sh id).map (·.1) = (sh.map (·.1)).erase id := by
  rw [hk.erase_eq_filter, List.filter_map]
  simp only [removeShared]
  congr 1
  apply List.filter_congr
  intro p _
  by_cases h : p.1 = id <;> simp [bne, h]

theorem setCount_pos (sh : List (Nat × Nat)) (id c : Nat) (hc : 1 ≤ c) (h : ∀ p ∈ sh, 1 ≤ p.2) :
    ∀ p ∈ setCount sh id c, 1 ≤ p.2 := by
  intro p hp
  simp only [setCount, List.mem_map] at hp
  obtain ⟨q, hq, rfl⟩ := hp
  split
  · exact hc
  · exact h q hq

theorem removeShared_pos {sh : List (Nat × Nat)} (id : Nat) (h : ∀ p ∈ sh, 1 ≤ p.2) : ∀ p ∈ removeShared sh id, 1 ≤ p.2 :=
  fun p hp => h p (List.mem_filter.mp hp).1

theorem filter_ne_length {l : List Nat} {id : Nat} (hn : l.Nodup) (hm : id ∈ l) : (l.filter (· ≠ id)).length + 1 = l.length := by
  have : l.filter (· ≠ id) = l.erase id := by
    rw [hn.erase_eq_filter]; exact List.filter_congr fun x _ => by simp [bne, BEq.beq]
  rw [this, List.length_erase_of_mem hm]
  have := List.length_pos_of_mem hm
  omega

def ids (s : St) : List Nat := s.queue ++ s.muts ++ s.shared.map (·.1)

/-- an enabled step, by what moves -/
@[elab_as_elim]
theorem step_ok_cases {motive : St → Prop} {s s' : St} {st : Step} (h : step s st = .ok s')
    (counters : ∀ p a d pa, p + a + d + pa = s.permits + s.acquiring + s.dropping + s.pendingAdd →
      motive { s with permits := p, acquiring := a, dropping := d, pendingAdd := pa })
    (pop : ∀ id rest, s.queue = id :: rest → 0 < s.acquiring →
      motive { s with queue := rest, acquiring := s.acquiring - 1, muts := id :: s.muts })
    (freeze : ∀ id, id ∈ s.muts → motive { s with muts := s.muts.erase id, shared := (id, 1) :: s.shared })
    (recount : ∀ id c', 1 ≤ c' → motive { s with shared := setCount s.shared id c' })
    (dropMut : ∀ id, id ∈ s.muts →
      motive { s with muts := s.muts.erase id, queue := s.queue ++ [id], dropping := s.dropping + 1 })
    (lastHandle : ∀ id c d pa, count s.shared id = some c → d + pa = s.dropping + s.pendingAdd + 1 →
      motive { s with shared := removeShared s.shared id, queue := s.queue ++ [id], dropping := d, pendingAdd := pa }) :
    motive s' := by
  revert h; fun_cases step s st <;> intro h <;> cases h -- the eleven branches that end in `.ok`
  · exact counters _ _ _ _ (by omega)            -- permit
  · exact pop _ _ ‹_› (by omega)                 -- pop
  · exact freeze _ ‹_›                           -- freeze
  · exact recount _ _ (by omega)                 -- clone
  · exact dropMut _ ‹_›                          -- dropMut
  · exact lastHandle _ _ _ _ ‹_› (by omega)      -- dropShared, the last handle
  · exact recount _ _ (by omega)                 -- dropShared, another handle remains
  · exact counters _ _ _ _ (by omega)            -- releasePermit
  · exact lastHandle _ _ _ _ ‹_› (by omega)      -- batchTake, the last handle
  · exact recount _ _ (by omega)                 -- batchTake, another handle remains
  · exact counters _ _ _ _ (by omega)            -- batchAdd

theorem step_ne_panic {s : St} {st : Step} (h : step s st = .panic) : st = .pop := by
  revert h; fun_cases step s st <;> intro h <;> cases h -- the one branch that ends in `.panic`
  rfl

open List in
theorem step_ids {s s' : St} {st : Step} (hsn : (s.shared.map (·.1)).Nodup) (h : step s st = .ok s') :
    ids s' ~ ids s ∧ s'.cap = s.cap := by
  refine step_ok_cases h ?counters ?pop ?freeze ?recount ?dropMut ?lastHandle <;> unfold ids
  case counters => exact fun _ _ _ _ _ => ⟨.refl _, rfl⟩
  case pop => intro id rest hq _; simp [hq]
  case freeze =>
    intro id hm
    simp only [List.map_cons, List.append_assoc]
    exact ⟨.append_left _ (perm_middle.trans ((perm_cons_erase hm).symm.append_right _)), trivial⟩
  case recount => intro id c' _; simp [setCount_keys]
  case dropMut =>
    intro id hm
    simp only [List.append_assoc, List.singleton_append]
    exact ⟨.append_left _ ((perm_cons_erase hm).symm.append_right _), trivial⟩
  case lastHandle =>
    intro id c _ _ hcnt _
    have hmem : id ∈ s.shared.map (·.1) := List.mem_map.mpr ⟨(id, c), count_some_mem hcnt, rfl⟩
    simp only [removeShared_keys id hsn, List.append_assoc, List.singleton_append]
    exact ⟨.append_left _ (perm_middle.symm.trans ((perm_cons_erase hmem).symm.append_left _)), trivial⟩

theorem excl_step (s s' : St) (st : Step) (hex : Excl s) (h : step s st = .ok s') : Excl s' :=
  (step_ids (List.nodup_append.mp hex).2.1 h).1.nodup_iff.mpr hex

theorem excl_init (n : Nat) : Excl (init n) := by
  simp [Excl, init, List.nodup_range]

/-- the invariant is preserved by every enabled micro-step, given that freshly popped buffers are not
    already held (which is `Excl`; here it is only needed for `Nodup` of the holder lists) -/
theorem inv_step (s s' : St) (st : Step) (hinv : PoolInv s) (hfresh : ∀ id rest, s.queue = id :: rest → id ∉ s.muts)
    (hfreeze : ∀ id, id ∈ s.muts → id ∉ s.shared.map (·.1)) (h : step s st = .ok s') : PoolInv s' := by
  obtain ⟨ha, hb, hc, hmn, hsn⟩ := hinv
  -- no buffer appears or disappears (`step_ids`); so it is enough that the semaphore's counters follow the queue:
  -- a step moves one unit between the counters, or one buffer into or out of the queue together with one unit
  suffices hrest : s'.permits + s'.acquiring + s'.dropping + s'.pendingAdd + s.queue.length =
        s.permits + s.acquiring + s.dropping + s.pendingAdd + s'.queue.length ∧
      (∀ p ∈ s'.shared, 1 ≤ p.2) ∧ s'.muts.Nodup ∧ (s'.shared.map (·.1)).Nodup by
    obtain ⟨hperm, hcap⟩ := step_ids hsn h
    have hlen := hperm.length_eq
    simp only [ids, List.length_append, List.length_map] at hlen
    obtain ⟨hbal, hrest⟩ := hrest
    exact ⟨by omega, by omega, hrest⟩
  clear ha hb -- `omega` below is paid for by the size of the context
  refine step_ok_cases h ?counters ?pop ?freeze ?recount ?dropMut ?lastHandle
  case counters => exact fun _ _ _ _ hsum => ⟨by simp only; omega, hc, hmn, hsn⟩
  case pop =>
    exact fun id rest hq hacq =>   -- `hacq : 0 < s.acquiring` is what `omega` needs
      ⟨by simp only [hq, List.length_cons]; omega, hc, List.nodup_cons.mpr ⟨hfresh id rest hq, hmn⟩, hsn⟩
  case freeze => exact fun id hm => ⟨rfl, by simpa using hc, hmn.erase _, List.nodup_cons.mpr ⟨hfreeze id hm, hsn⟩⟩
  case recount => exact fun id c' hc' => ⟨rfl, setCount_pos _ _ _ hc' hc, hmn, (setCount_keys _ _ _).symm ▸ hsn⟩
  case dropMut =>
    exact fun id _ => ⟨by simp only [List.length_append, List.length_singleton]; omega, hc, hmn.erase _, hsn⟩
  case lastHandle =>
    exact fun id c d pa _ hsum =>   -- `hsum : d + pa = s.dropping + s.pendingAdd + 1`, for `omega`
      ⟨by simp only [List.length_append, List.length_singleton]; omega, removeShared_pos _ hc, hmn,
        removeShared_keys id hsn ▸ hsn.erase id⟩

theorem inv_init (n : Nat) : PoolInv (init n) := by
  simp [PoolInv, init]

/-- **`pop().unwrap()` is safe**: a task that holds a permit always finds a buffer in the queue -/
theorem C19_pop_never_panics (s : St) (hinv : PoolInv s) : step s .pop ≠ .panic := by
  obtain ⟨ha, hb, _, _, _⟩ := hinv
  simp only [step]
  split
  · simp
  · split
    · next hq => simp only [hq, List.length_nil] at ha; omega
    · simp

/-- **over every schedule**: the pool never panics and both invariants hold in every state reached -/
theorem C19_run_safe (s : St) (sched : List Step) (hinv : PoolInv s) (hex : Excl s) :
    ∃ s', run s sched = .ok s' ∧ PoolInv s' ∧ Excl s' := by
  induction sched generalizing s with
  | nil => exact ⟨s, rfl, hinv, hex⟩
  | cons st rest ih =>
    simp only [run]
    cases hs : step s st with
    | ok s1 =>
      refine ih s1 (inv_step s s1 st hinv (fun id r hq hm => ?_) (fun id hm hk => ?_) hs) (excl_step s s1 st hex hs)
      · simp only [Excl, hq, List.cons_append, List.nodup_cons, List.mem_append] at hex
        exact hex.1 (.inl (.inr hm))
      · exact (List.nodup_append.mp hex).2.2 id (List.mem_append.mpr (.inr hm)) id hk rfl
    | disabled => exact ih s hinv hex
    | panic =>
      cases step_ne_panic hs
      exact absurd hs (C19_pop_never_panics s hinv)

/-- **exclusive hand-out, whatever the interleaving**: starting from a fresh pool, in every reachable state no
    buffer is both available and held, held by two mutable owners, or held mutably and shared -/
theorem C19_exclusive (n : Nat) (sched : List Step) :
    ∃ s', run (init n) sched = .ok s' ∧ PoolInv s' ∧ Excl s' :=
  C19_run_safe (init n) sched (inv_init n) (excl_init n)

/-- **conservation**: available + in use = capacity, and `in_use_count()` is the number of buffers held -/
theorem C19_conservation (s : St) (hinv : PoolInv s) :
    available s + inUse s = s.cap ∧ inUse s = s.muts.length + s.shared.length := by
  obtain ⟨ha, _, _, _, _⟩ := hinv
  unfold available inUse
  omega

/-- **everything comes back**: with no holder left and no release half-way, all buffers and permits are available -/
theorem C19_all_back (s : St) (hinv : PoolInv s) (h1 : s.muts = []) (h2 : s.shared = []) (h3 : s.acquiring = 0)
    (h4 : s.dropping = 0) (h5 : s.pendingAdd = 0) : s.queue.length = s.cap ∧ s.permits = s.cap := by
  obtain ⟨ha, hb, _, _, _⟩ := hinv
  simp only [h1, h2, h3, h4, h5, List.length_nil] at ha hb
  omega

/-- **an acquirer waits only while the pool is genuinely empty**: `permit` is disabled iff there is no permit,
    and at rest (no acquire / release half-way) no permit means an empty queue -/
theorem C19_waits_only_when_empty (s : St) (hinv : PoolInv s) :
    (step s .permit = .disabled ↔ s.permits = 0) ∧
    (s.acquiring = 0 → s.dropping = 0 → s.pendingAdd = 0 → (s.permits = 0 ↔ s.queue = [])) := by
  obtain ⟨ha, hb, _, _, _⟩ := hinv
  refine ⟨?_, fun h3 h4 h5 => ?_⟩
  · simp only [step]
    split <;> simp <;> omega
  · rw [← List.length_eq_zero_iff]
    omega

/-- **`acquire_buffer(size)` picks a large-enough bucket whenever one exists, `None` otherwise** -/
theorem C19_choose_ok (buckets : List (Nat × Nat)) (req : Nat) :
    (∀ sz, choose buckets req = .take sz → sz ≥ req ∧ ∃ b ∈ buckets, b.1 = sz ∧ b.2 > 0) ∧
    (∀ sz, choose buckets req = .block sz → sz ≥ req ∧ (∃ b ∈ buckets, b.1 = sz) ∧ ∀ b ∈ buckets, b.1 ≥ req → b.2 = 0) ∧
    (choose buckets req = .none ↔ ∀ b ∈ buckets, b.1 < req) := by
  unfold choose
  split
  · next b hf =>
    have hm := List.mem_of_find?_eq_some hf
    have hb := List.find?_some hf
    simp only [Bool.and_eq_true, decide_eq_true_eq] at hb
    exact ⟨fun _ h => by cases h; exact ⟨hb.1, b, hm, rfl, hb.2⟩, nofun,
      nofun, fun h => absurd (h b hm) (Nat.not_lt.mpr hb.1)⟩
  · next hnone =>
    have hzero : ∀ b ∈ buckets, b.1 ≥ req → b.2 = 0 := by simpa using hnone
    split
    · next b hl =>
      have hm := List.mem_of_getLast? hl
      simp only [List.mem_filter, decide_eq_true_eq] at hm
      exact ⟨nofun, fun _ h => by cases h; exact ⟨hm.2, ⟨b, hm.1, rfl⟩, hzero⟩,
        nofun, fun h => absurd (h b hm.1) (Nat.not_lt.mpr hm.2)⟩
    · next hl =>
      simp only [List.getLast?_eq_none_iff, List.filter_eq_nil_iff, decide_eq_true_eq, Nat.not_le] at hl
      exact ⟨nofun, nofun, fun _ => hl, fun _ => rfl⟩

-- non-vacuity: a run with freeze, clone, batch release and drops returns everything
example : run (init 2) [.permit, .pop, .freeze 0, .clone 0, .batchTake 0, .batchAdd 0, .dropShared 0, .releasePermit] =
    .ok { cap := 2, queue := [1, 0], permits := 2, acquiring := 0, muts := [], shared := [], dropping := 0, pendingAdd := 0 } := by
  decide

end Narwhal.Pool

#print axioms Narwhal.Pool.inv_step
#print axioms Narwhal.Pool.excl_step
#print axioms Narwhal.Pool.C19_run_safe
#print axioms Narwhal.Pool.C19_exclusive
#print axioms Narwhal.Pool.C19_pop_never_panics
#print axioms Narwhal.Pool.C19_conservation
#print axioms Narwhal.Pool.C19_all_back
#print axioms Narwhal.Pool.C19_waits_only_when_empty
#print axioms Narwhal.Pool.C19_choose_ok
