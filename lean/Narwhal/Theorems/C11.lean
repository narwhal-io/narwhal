import Narwhal.Lemmas.CodecParams
import Narwhal.Generated.Schema
/-!
# C11 — the wire codec: decoding is total and never panics; encode/decode round-trip

`Narwhal.Codec` is a byte-exact, schema-generic model of `serialize` / `deserialize` and of the code the derive
macro generates; the schema is regenerated from `message.rs` on every run and its well-formedness (`SchemaOK`) is
re-decided by the kernel here.  The model is tied to the implementation by the `codec` correspondence suite
(both directions, all 45 kinds, adversarial values, mutated and truncated lines).
-/
namespace Narwhal.Codec
open Narwhal.Generated

/-- the only arithmetic in the decoder that could overflow is the decrement of the value counter; it is never
    reached with a zero counter (a count of `0` in a parameter name is rejected as malformed) -/
theorem readParams_no_panic (fuel : Nat) (s : Bytes) (cur : Option (Bytes × Nat))
    (hcur : ∀ nm c, cur = some (nm, c) → c ≠ 0) : readParams fuel s cur ≠ .error .panic := by
  induction fuel generalizing s cur with
  | zero => simp [readParams]
  | succ f ih =>
    have value : ∀ s nm c, c ≠ 0 → readParams (f + 1) s (some (nm, c)) ≠ .error .panic := by
      intro s nm c hc
      rw [readParams_value]
      split
      · next v s3 _ =>
        rw [if_neg hc]
        split
        · exact fun h => nomatch h
        · next e he =>
          intro h
          cases h
          refine ih s3 _ (fun nm' c' h => ?_) he
          split at h <;> cases h
          assumption
      · exact fun h => nomatch h
    cases cur with
    | some p => exact value s p.1 p.2 (hcur _ _ rfl)
    | none =>
      rw [readParams_param (Nat.add_one_ne_zero f)]
      split
      · exact fun h => nomatch h
      · next s1 _ =>
        rcases readParameter_cases s1 with h | ⟨nm, c, r, hc, h⟩ <;> rw [h]
        · exact fun h => nomatch h
        · exact value r nm c hc

/-- **C11 (decoding is total and never panics).**  For every schema and every byte string `deserialize` returns a
    message or an error; the overflow-checked decrement is never reached with zero. (Termination: `decode` is a total
    Lean function; its parameter loop is bounded by the input length.) -/
theorem C11_decode_never_panics (S : Schema) (line : Bytes) : decode S line ≠ .error .panic := by
  unfold decode
  split
  · simp
  split
  · simp
  split
  · next e he =>
    intro h
    cases h
    exact readParams_no_panic _ _ none (by simp) he
  split
  · simp
  · split <;> simp

/-- **C11 (values round-trip).** Every value the encoder accepts — any UTF-8 string without LF/NUL for which one of
    the four delimiters is free, every `u8`/`u16`/`u32`, both booleans — followed by the end of the line or a space,
    is read back by the scanner as exactly that value, leaving the rest of the line in place. -/
theorem C11_value_roundtrip (ty : Ty) (x : Scalar) (e tail : Bytes) (hwt : ScalarWT ty x) (he : encScalar x = .ok e)
    (ht : Sep tail) :
    ∃ raw tail', readEscaped (e ++ tail) = some (some (raw, tail')) ∧ seekChar tail' = seekChar tail ∧
      decScalar ty raw = some x :=
  have ⟨tail', h1, h2⟩ := readEscaped_encScalar tail he ht
  ⟨rawOf x, tail', h1, h2, decScalar_rawOf hwt⟩

/-- the encoder refuses exactly the strings it could not write losslessly: those with LF or NUL, and those that
    need escaping while containing all four delimiters -/
theorem C11_encStr_refuses (s : Bytes) :
    (∃ e, encStr s = .ok e) ↔
      (∀ b ∈ s, b ≠ 10 ∧ b ≠ 0) ∧ (s = [] ∨ (looksEscaped s = false ∧ s.any isSpace = false) ∨ ∃ d ∈ escChars, d ∉ s) := by
  constructor
  · rintro ⟨e, he⟩
    obtain ⟨h0, ⟨_, hl, hsp, _⟩ | ⟨d, hesc, hd, _⟩⟩ := encStr_cases he
    · exact ⟨h0, .inr (.inl ⟨hl, hsp⟩)⟩
    · exact ⟨h0, .inr (.inr ⟨d, mem_escChars.mpr hesc, hd⟩)⟩
  · rintro ⟨h0, h⟩
    have hbad : s.any (fun b => decide (b = 10) || decide (b = 0)) = false := by simpa using h0
    -- the only other refusal is in the last branch of `encStr`: a string to be escaped with no delimiter free
    unfold encStr
    rw [if_neg (by simp [hbad])]
    split
    · exact ⟨_, rfl⟩
    next hemp =>
    split
    · exact ⟨_, rfl⟩
    next hplain =>
    split
    · exact ⟨_, rfl⟩
    next hfind =>
    rcases h with h | h | ⟨d, hd, hnot⟩
    · simp [h] at hemp
    · simp [h] at hplain
    · simpa [hnot] using List.find?_eq_none.mp hfind d hd

/-- `name=` is read back as `(name, 1)` -/
theorem C11_param_name_roundtrip (nm rest : Bytes) (hn : ∀ x ∈ nm, isOptionNameByte x = true) :
    readParameter (nm ++ 61 :: rest) = .ok (nm, 1, rest) := by
  simp [readParameter, splitAt_eq (· = 61) nm 61 rest (fun x hx => by simpa using (optionName_byte (hn x hx)).1),
    splitAt_none (· = 58) nm (fun x hx => by simpa using (optionName_byte (hn x hx)).2.1), List.all_eq_true.mpr hn]

/-- `name:k=` is read back as `(name, k)` for every count `1 ≤ k < 2^64` (what `write_param_slice` writes) -/
theorem C11_param_count_roundtrip (nm rest : Bytes) (k : Nat) (hn : ∀ x ∈ nm, isOptionNameByte x = true)
    (hk : k ≠ 0) (hk' : k ≤ 2 ^ 64 - 1) :
    readParameter (nm ++ 58 :: digits k ++ 61 :: rest) = .ok (nm, k, rest) := by
  have hd := (digits_spec k).2.1
  have h61 : splitAt (· = 61) (nm ++ 58 :: digits k ++ 61 :: rest) = some (nm ++ 58 :: digits k, rest) := by
    have := splitAt_eq (· = 61) (nm ++ 58 :: digits k) 61 rest (fun x hx => by
      rcases List.mem_append.mp hx with h | h
      · simpa using (optionName_byte (hn x h)).1
      · rcases List.mem_cons.mp h with rfl | h
        · decide
        · have := hd x h; simp; omega) (by simp)
    simpa using this
  have h58 := splitAt_eq (· = 58) nm 58 (digits k) (fun x hx => by simpa using (optionName_byte (hn x hx)).2.1) (by simp)
  have hutf := utf8Valid_ascii (digits k) (fun b hb => by have := hd b hb; omega)
  cases k with
  | zero => exact absurd rfl hk
  | succ k' =>
    rw [readParameter, h61]
    simp [h58, hutf, parseUnsigned_digits hk', List.all_eq_true.mpr hn]

/-- a message name: non-empty and `Plain`, so that `read_string` returns it whole; without LF, which `Plain` does not exclude (LF is
    no `isSpace` byte: the line is cut at it before `deserialize` sees it) and `C11_encode_one_line` needs; ASCII, as
    docs/PROTOCOL.md says of message names (no theorem here uses that) -/
def bytesPlain (l : Bytes) : Bool := !l.isEmpty && l.all (fun b => b ≠ 0 && !isSpace b && b ≠ 10 && b < 128)

/-- well-formedness of a schema: what the theorems about whole messages need from the table -/
def SchemaOK (S : Schema) : Bool :=
  -- message names: plain tokens, pairwise distinct (so `from_name` inverts `name`)
  S.all (fun sp => bytesPlain sp.wire) && (S.map (·.wire)).Nodup &&
  -- parameter names: option-name bytes, non-empty, pairwise distinct within a message
  S.all (fun sp => sp.fields.all (fun f => !f.name.isEmpty && f.name.all isOptionNameByte) && (sp.fields.map (·.name)).Nodup) &&
  -- the enum / number constraints name existing fields
  S.all (fun sp => sp.enums.all (fun e => e.1 < sp.fields.length) && sp.nums.all (fun e => e.1 < sp.fields.length))

/-- **table obligation**, re-decided on every run for the schema regenerated from `message.rs` -/
theorem schema_ok : SchemaOK schema = true := by decide +kernel

theorem schema_has_45_kinds : schema.length = 45 := by decide +kernel

theorem bytesPlain_spec {l : Bytes} (h : bytesPlain l = true) : l ≠ [] ∧ Plain l ∧ 10 ∉ l := by
  simp only [bytesPlain, Bool.and_eq_true, List.all_eq_true, Bool.not_eq_true', decide_eq_true_eq,
    List.isEmpty_eq_false_iff] at h
  exact ⟨h.1, fun b hb => ⟨(h.2 b hb).1.1.1, (h.2 b hb).1.1.2⟩, fun hb => (h.2 10 hb).1.2 rfl⟩

theorem schemaOK_spec {S : Schema} (hS : SchemaOK S = true) {k : Nat} {spec : MsgSpec} (h : S[k]? = some spec) :
    bytesPlain spec.wire = true ∧ (∀ f ∈ spec.fields, NameOK f) ∧ (spec.fields.map (·.name)).Nodup ∧
      (S.map (·.wire)).Nodup := by
  simp only [SchemaOK, Bool.and_eq_true, List.all_eq_true, decide_eq_true_eq] at hS
  obtain ⟨⟨⟨hwire, hwnd⟩, hfields⟩, _⟩ := hS
  have hmem := List.mem_of_getElem? h
  refine ⟨hwire spec hmem, fun f hf => ?_, (hfields spec hmem).2, hwnd⟩
  simpa [NameOK] using (hfields spec hmem).1 f hf

/-- **C11 (one line).** Whatever `serialize` accepts is written as exactly one line: the output ends in LF and
    contains no other LF — for every message of every kind of a well-formed schema. -/
theorem C11_encode_one_line (S : Schema) (hS : SchemaOK S = true) (cap : Nat) (m : Msg) (l : Bytes)
    (h : encode S cap m = .ok l) : ∃ body, l = body ++ [10] ∧ ∀ b ∈ body, b ≠ 10 := by
  obtain ⟨spec, ps, hspec, _, hps, rfl⟩ := encode_ok h
  obtain ⟨hw, hnames, _⟩ := schemaOK_spec hS hspec
  have hps : 10 ∉ ps :=
    encFields_no_lf (fun p hp => hnames p.1 (List.of_mem_zip (canonical_subset _ hp)).1) hps
  refine ⟨spec.wire ++ ps, rfl, fun b hb h10 => ?_⟩
  subst h10
  exact (List.mem_append.mp hb).elim (bytesPlain_spec hw).2.2 hps

/-- the values of a message have the types its kind declares -/
def FValWT (f : Field) : FVal → Prop
  | .reg x => f.kind = .regular ∧ ScalarWT f.ty x
  | .opt none => f.kind = .optional
  | .opt (some x) => f.kind = .optional ∧ ScalarWT f.ty x
  | .vec vs => f.kind = .vec ∧ ∀ x ∈ vs, ScalarWT f.ty x

def MsgWT (S : Schema) (m : Msg) : Prop :=
  ∃ spec, S[m.kind]? = some spec ∧ m.vals.length = spec.fields.length ∧
    ∀ p ∈ spec.fields.zip m.vals, FValWT p.1 p.2

/-- **C11 (round trip), full statement**: every well-typed message that encodes, encodes to a line whose body decodes
    to the same message.  Proved in `Theorems/C11Full.lean` (`C11_roundtrip`) for messages whose vectors hold fewer
    than 2^64 elements; validated besides by the correspondence suite and an implementation-side round-trip oracle on
    every accepted message. -/
def C11_roundtrip_full (S : Schema) : Prop :=
  ∀ (cap : Nat) (m : Msg) (body : Bytes), MsgWT S m → encode S cap m = .ok (body ++ [10]) → decode S body = .ok m

-- `ERROR id=7 reason=TIMEOUT detail=\"a b\\\"` : an escaped value ending in a backslash, decoded back
example :
    (do let l ← (encode schema 4096 { kind := 8, vals := [.opt (some (.num 7)), .reg (.str [84, 73, 77, 69, 79, 85, 84]),
            .opt (some (.str [97, 32, 98, 92]))] }).toOption
        pure (l, (decode schema (l.take (l.length - 1))).toOption)) =
      some ([69, 82, 82, 79, 82, 32, 105, 100, 61, 55, 32, 100, 101, 116, 97, 105, 108, 61, 92, 34, 97, 32, 98, 92, 92, 34, 32,
              114, 101, 97, 115, 111, 110, 61, 84, 73, 77, 69, 79, 85, 84, 10],
            some { kind := 8, vals := [.opt (some (.num 7)), .reg (.str [84, 73, 77, 69, 79, 85, 84]), .opt (some (.str [97, 32, 98, 92]))] }) := by
  decide +kernel

#print axioms C11_decode_never_panics
#print axioms C11_value_roundtrip
#print axioms C11_encStr_refuses
#print axioms C11_param_name_roundtrip
#print axioms C11_param_count_roundtrip
#print axioms C11_encode_one_line
#print axioms schema_ok

end Narwhal.Codec
