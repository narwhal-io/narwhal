import Narwhal.Model.Names
import Narwhal.Generated.Steps
/-!
# C07 — a username has at most one live holder, under every interleaving

Without modulator authentication, for every sequence of registrations, connection ends and clean-up completions (in any order,
by any number of connections): a name is held by at most one connection; an IDENTIFY is acknowledged exactly when the name is
neither held nor reserved by a clean-up still in progress (so a new session never meets the memberships of its predecessor —
C01's "even after reconnecting under the same name", repair ad38d09); the holder keeps the name until *its own* connection
ends; and the name is available again once the holder has ended and its clean-up has finished.
-/
namespace Narwhal.Names

theorem holders_step (r : Router) (op : Op) (n : Name) :
    holders (step r op) n = match op with
      | .identify name k => if n = name ∧ r name = none then [k] else holders r n
      | .ended name k => if n = name then (holders r n).filter (· ≠ k) else holders r n
      | .cleaned _ => holders r n := by
  -- both sides compute once the router's entry at the step's name, and whether `n` is that name, are known
  cases op with simp only [step, holders]
  | identify name k => cases hr : r name <;> by_cases hn : n = name <;> simp [hn, hr]
  | ended name k => cases hr : r name <;> by_cases hn : n = name <;> simp [hn, hr]
  | cleaned name =>
    rcases hr : r name with _ | ⟨_ | _⟩ <;> simp only
    by_cases hn : n = name <;> simp [hn, hr]

theorem step_le_one (r : Router) (op : Op) (h : ∀ n, (holders r n).length ≤ 1) (n : Name) :
    (holders (step r op) n).length ≤ 1 := by
  rw [holders_step]
  cases op with simp only
  | identify name k => split <;> simp [h n]
  | ended name k =>
    split
    · exact Nat.le_trans (List.length_filter_le _ _) (h n)
    · exact h n
  | cleaned name => exact h n

/-- **C07 (unique while live)**: whatever the interleaving, at most one connection holds a name -/
theorem C07_unique_holder (ops : List Op) (n : Name) : (holders (run init ops) n).length ≤ 1 :=
  List.foldlRecOn ops step (motive := fun r => ∀ n, (holders r n).length ≤ 1) (fun _ => by simp [init, holders])
    (fun r h op _ => step_le_one r op h) n

/-- an IDENTIFY is acknowledged exactly when the name is neither held nor reserved, and then the connection holds it -/
theorem C07_identify_iff_free (r : Router) (name : Name) (k : Nat) :
    (accepted r (.identify name k) = true ↔ taken r name = false) ∧
    (accepted r (.identify name k) = true → holders (step r (.identify name k)) name = [k]) ∧
    (accepted r (.identify name k) = false → step r (.identify name k) = r) := by
  refine ⟨?_, ?_, ?_⟩
  · cases hr : r name <;> simp [accepted, taken, hr]
  · intro h
    cases hr : r name with
    | none => simp [step, hr, holders]
    | some l => simp [accepted, hr] at h
  · intro h
    cases hr : r name with
    | none => simp [accepted, hr] at h
    | some l => simp [step, hr]

/-- **nothing but its own end takes a name from its holder**: no registration attempt, no other connection's end and no
    clean-up removes `k` from the name it holds -/
theorem C07_holder_keeps_name (r : Router) (op : Op) (name : Name) (k : Nat) (hk : k ∈ holders r name)
    (hop : op ≠ .ended name k) : k ∈ holders (step r op) name := by
  rw [holders_step]
  cases op with simp only
  | identify name' k' =>
    split
    · next h => obtain ⟨rfl, hr⟩ := h; simp [holders, hr] at hk
    · exact hk
  | ended name' k' =>
    split
    · next h => subst h; exact List.mem_filter.mpr ⟨hk, by simpa using fun h0 : k = k' => hop (h0 ▸ rfl)⟩
    · exact hk
  | cleaned name' => exact hk

/-- while the clean-up of a departed user is in progress the name stays taken: a new session cannot meet the old memberships -/
theorem C07_reserved_during_cleanup (r : Router) (name : Name) (k k' : Nat) (h : r name = some [k]) :
    accepted (step r (.ended name k)) (.identify name k') = false ∧ holders (step r (.ended name k)) name = [] := by
  simp [accepted, step, h, holders]

/-- **the name is available again once its holder has ended and the clean-up has finished** -/
theorem C07_name_reusable (r : Router) (name : Name) (k k' : Nat) (h : r name = some [k]) :
    accepted (step (step r (.ended name k)) (.cleaned name)) (.identify name k') = true := by
  simp [accepted, step, h]

open Narwhal.Generated in
/-- table obligation (regenerated from c2s/router.rs on every run): each operation touches the connection map in one critical
    section, an exclusive registration is refused whenever an entry exists, and the reservation is removed only after the clean-up -/
theorem names_table_ok : registerOneSection = true ∧ unregisterOneSection = true := by decide

example : holders (run init [.identify 7 1, .identify 7 2, .ended 7 1, .identify 7 3, .cleaned 7, .identify 7 4]) 7 = [4] := by decide

end Narwhal.Names

#print axioms Narwhal.Names.C07_unique_holder
#print axioms Narwhal.Names.C07_identify_iff_free
#print axioms Narwhal.Names.C07_holder_keeps_name
#print axioms Narwhal.Names.C07_reserved_during_cleanup
#print axioms Narwhal.Names.C07_name_reusable
#print axioms Narwhal.Names.names_table_ok
