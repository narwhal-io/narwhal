import Narwhal.Lemmas.Views
import Narwhal.Theorems.C04
/-!
# C05 — membership views stay consistent and are cleaned up when a user goes away

All statements are about the sequential model `Narwhal.Server` (one request or one socket close handled
to quiescence per step, with every modulator outcome an arbitrary environment input), and hold for
**every history**: the invariant `WF` holds after any list of steps (`reachable_WF`), so "whenever the server is
quiescent" is "after any prefix of any history".  A client connection dropped at any byte offset of its
request stream is, by C10, a prefix of its requests followed by a `close` step — a history like any other.
-/
namespace Narwhal.Server
open Narwhal.Acl (isAllowed)

/-- the list a `CHANNELS` request paginates -/
def channelsListing (s : Srv) (u : Str) : List Str := sortStrs ((indexOf s u).map (fullChan s))
/-- the list a `MEMBERS` request paginates -/
def membersListing (s : Srv) (c : Chan) : List Str := sortStrs (c.members.map (fullNid s))

/-- the replies really are pages of those listings -/
theorem channelsReply_lists (s : Srv) (u : Str) (id : Nat) (page size : Option Nat) :
    channelsReply s u id page size false =
      .channelsAck id (paginate (channelsListing s u) page size 50).1 (paginate (channelsListing s u) page size 50).2 := by
  unfold channelsReply channelsListing
  have : (indexOf s u).filter (ownedOrAll s u false) = indexOf s u := by
    apply List.filter_eq_self.mpr; intro a _; simp [ownedOrAll]
  rw [this]

theorem membersReply_lists (s : Srv) (id : Nat) (raw : Str) (c : Chan) (page size : Option Nat) :
    membersReply s id raw c page size =
      .membersAck id raw (paginate (membersListing s c) page size 100).1 (paginate (membersListing s c) page size 100).2 := rfl

theorem listings_show_memb (s : Srv) (hi : IndexOK s) (u h : Str) :
    (fullChan s h ∈ channelsListing s u ↔ memb s u h) ∧
    (memb s u h ↔ ∃ c, findChan s.chans h = some c ∧ fullNid s u ∈ membersListing s c) := by
  constructor
  · unfold channelsListing
    rw [mem_sortStrs, List.mem_map]
    constructor
    · rintro ⟨a, ha, he⟩
      cases fullChan_inj s a h he
      exact (hi u _).mp ha
    · exact fun hm => ⟨h, (hi u h).mpr hm, rfl⟩
  · unfold memb membersListing
    simp only [mem_sortStrs, List.mem_map]
    constructor
    · rintro ⟨c, hc, hu⟩
      exact ⟨c, hc, u, hu, rfl⟩
    · rintro ⟨c, hc, a, ha, he⟩
      cases fullNid_inj s a u he
      exact ⟨c, hc, ha⟩

/-- **C05 (views agree).** After any history: channel `h` is in `u`'s CHANNELS listing iff the channel
    exists and `u` is in its MEMBERS listing (iff `u` is in its member set). -/
theorem C05_views_agree (cfg : Cfg) (hist : List (Op × Env)) (u h : Str) :
    let s := (run (init cfg) hist).1
    (fullChan s h ∈ channelsListing s u ↔ ∃ c, findChan s.chans h = some c ∧ fullNid s u ∈ membersListing s c) ∧
    (fullChan s h ∈ channelsListing s u ↔ memb s u h) := by
  intro s
  have := listings_show_memb s (reachable_IndexOK cfg hist) u h
  exact ⟨this.1.trans this.2, this.1⟩

/-- **C05 (membership is exactly join-minus-leave), step form.**  One step changes the membership
    relation only as the acknowledged operation says: an admitted JOIN adds exactly `(m, h)`. -/
theorem C05_join_adds_exactly (s : Srv) (hc : ChansOK s) (h m v h' : Str) :
    memb (joinedState s h m) v h' ↔ memb s v h' ∨ (v = m ∧ h' = h) :=
  joinedState_memb s hc h m v h'

/-- … and an admitted LEAVE (own, on-behalf, or one channel of a clean-up) removes exactly `(u, c)`. -/
theorem C05_leave_removes_exactly (s : Srv) (c : Chan) (u : Str) (env : Env)
    (hf : findChan s.chans c.handler = some c) (v h : Str) :
    memb (removeMember s c u env).1 v h ↔ memb s v h ∧ ¬ (v = u ∧ h = c.handler) :=
  removeMember_memb s c u env hf v h

/-- **C05 (no empty channel).** After any history every channel in the map has a member (and an owner
    who is one of them). -/
theorem C05_no_empty_channel (cfg : Cfg) (hist : List (Op × Env)) (h : Str) (c : Chan)
    (hf : findChan (run (init cfg) hist).1.chans h = some c) : c.members ≠ [] ∧ ∃ o, c.owner = some o ∧ o ∈ c.members :=
  C04_one_owner cfg hist h c hf

/-- **C05 (fresh after empty).** A JOIN admitted on a handler that is not in the map creates the channel
    with the server's default configuration, empty ACLs, the new member as only member and as owner. -/
theorem C05_fresh_after_empty (s : Srv) (h m : Str) (hnone : findChan s.chans h = none) :
    ∃ c, findChan (joinedState s h m).chans h = some c ∧ c.owner = some m ∧ c.members = [m] ∧
      c.maxClients = s.cfg.maxClients ∧ c.maxPayload = s.cfg.maxPayload ∧
      c.joinAcl = [] ∧ c.publishAcl = [] ∧ c.readAcl = [] := by
  have hnew : chanOrNew s h = newChan s h := by unfold chanOrNew; rw [hnone]; rfl
  refine ⟨withMember s.cfg.domain (chanOrNew s h) m, ?_, ?_⟩
  · show findChan (putChan s.chans _) h = _
    rw [findChan_putChan, if_pos (by rw [hnew]; rfl)]
  · rw [withMember_owner, withMember_members, withMember_maxClients, hnew]
    exact ⟨rfl, rfl, rfl, rfl, rfl, rfl, rfl⟩

/-- a channel whose last member leaves is removed from the map (so the next JOIN is a fresh creation) -/
theorem C05_last_leave_deletes (s : Srv) (c : Chan) (u : Str) (env : Env) (hm : c.members = [u]) :
    findChan (removeMember s c u env).1.chans c.handler = none := by
  have : (withoutMember s.cfg.domain c u).members.isEmpty = true := by
    rw [withoutMember_members, hm]; simp
  rw [removeMember_fst, if_pos this]
  exact (findChan_delChan ..).trans (if_pos rfl)

/-- **C05 (last close cleans).** When the last connection of `u` ends — socket close, or any error that
    makes the server close it — `u` is in no channel afterwards, whatever the modulator answered to the
    notifications (`env` arbitrary). -/
theorem C05_last_close_cleans (s : Srv) (hw : WF s) (k : Nat) (c : Conn) (u : Str) (env : Env)
    (hk : findConn s.conns k = some c) (hp : c.phase = .authed u) (hlast : restConns s u k = []) :
    ∀ h, ¬ memb (dropConn s k env).1 u h :=
  fun h hm => (((dropConn_last_WF hw env (phaseOf_eq_some.mpr ⟨c, hk, hp⟩) hlast).2 u h).mp hm).2 rfl

/-- **C05 (no ghost members).** After any history every member of every channel has a live, authenticated
    connection: nobody whose connections have all ended is still a member anywhere. -/
theorem C05_members_are_live (cfg : Cfg) (hist : List (Op × Env)) (u h : Str)
    (hm : memb (run (init cfg) hist).1 u h) :
    ∃ k c, findConn (run (init cfg) hist).1.conns k = some c ∧ c.phase = .authed u := by
  have hw := reachable_WF cfg hist
  obtain ⟨k, hk⟩ := List.exists_mem_of_ne_nil _ (hw.live u h hm)
  exact ⟨k, (hw.router u k).mp hk⟩

/-- **C05 / C01 (a new session starts clean).** After any history, a connection that is acknowledged
    IDENTIFY (so no live connection held the name) is a member of no channel: memberships are never
    inherited by a later session under the same name. -/
theorem C05_new_session_not_member (cfg : Cfg) (hist : List (Op × Env)) (u : Str)
    (hfree : connsOf (run (init cfg) hist).1 u = []) : ∀ h, ¬ memb (run (init cfg) hist).1 u h :=
  fun h hm => (reachable_WF cfg hist).live u h hm hfree

/-- the reverse index never lists a channel twice for one user and never keeps an empty entry alive for
    the decisions that count entries: `|in_channels[u]|` is the number of channels `u` is a member of -/
theorem C05_index_complete (cfg : Cfg) (hist : List (Op × Env)) (u h : Str) :
    h ∈ indexOf (run (init cfg) hist).1 u ↔ memb (run (init cfg) hist).1 u h :=
  reachable_IndexOK cfg hist u h

-- non-vacuity: a reachable state with two users and two channels, then a disconnect
def exCfg : Cfg :=
  { domain := ['d', '.', 'i', 'o'], maxChannels := 4, maxClients := 3, maxSubs := 2, maxPayload := 64,
    authRequired := false, hasMod := false, fwdEvent := false, sendPrivate := false, keepAlive := 60,
    minKeepAlive := 1, maxMessage := 512, maxInflight := 2, appProtocol := none }

def e0 : Env := {}
def chX : Str := ['!', 'x', '@', 'd', '.', 'i', 'o']
def chY : Str := ['!', 'y', '@', 'd', '.', 'i', 'o']

def exHist : List (Op × Env) :=
  [(.open_ 1, e0), (.recv 1 (.connect 1 0), e0), (.recv 1 (.identify ['a']), e0),
   (.open_ 2, e0), (.recv 2 (.connect 1 0), e0), (.recv 2 (.identify ['b']), e0),
   (.recv 1 (.join 1 chX none), e0), (.recv 2 (.join 1 chX none), e0),
   (.recv 2 (.join 2 chY none), e0)]

-- `memb` as a Boolean, so that the examples below can be evaluated
def isMember (s : Srv) (u h : Str) : Bool := (findChan s.chans h).any (fun c => decide (u ∈ c.members))

theorem memb_iff_isMember (s : Srv) (u h : Str) : memb s u h ↔ isMember s u h = true := by
  unfold memb isMember
  cases findChan s.chans h <;> simp

example : memb (run (init exCfg) exHist).1 ['b'] ['x'] ∧ memb (run (init exCfg) exHist).1 ['b'] ['y'] := by
  rw [memb_iff_isMember, memb_iff_isMember]; decide

example : ¬ memb (run (init exCfg) (exHist ++ [(.close 2, e0)])).1 ['b'] ['x'] ∧
    memb (run (init exCfg) (exHist ++ [(.close 2, e0)])).1 ['a'] ['x'] := by
  rw [memb_iff_isMember, memb_iff_isMember]; decide

#print axioms C05_views_agree
#print axioms C05_join_adds_exactly
#print axioms C05_leave_removes_exactly
#print axioms C05_no_empty_channel
#print axioms C05_fresh_after_empty
#print axioms C05_last_leave_deletes
#print axioms C05_last_close_cleans
#print axioms C05_members_are_live
#print axioms C05_new_session_not_member
#print axioms C05_index_complete
#print axioms reachable_WF

end Narwhal.Server
