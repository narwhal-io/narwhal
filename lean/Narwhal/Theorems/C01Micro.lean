import Narwhal.Model.MicroB
import Narwhal.Lemmas.Micro
import Narwhal.Generated.Steps
/-!
# C01 / C02 / C04 under interleaving: what a reader (BROADCAST, MEMBERS) can observe while writers are suspended
-/
namespace Narwhal.MicroB
open Narwhal.Micro

/-- a waiting reader refers to an existing object created for the channel it asked for -/
def RInv (s : St) : Prop :=
  ∀ r o, (s.readers r).pc = .wait o → o < s.base.next ∧ (s.base.objs o).name = (s.readers r).n

structure WF (s : St) : Prop where
  strict : s.base.strict = true
  inv    : Micro.Inv s.base
  rinv   : RInv s
  rres   : ∀ r, (s.readers r).pc ≠ .done → (s.readers r).res = none

theorem wf_init : WF (init true) := ⟨rfl, inv_init true, fun _ _ h => (nomatch h), fun _ _ => rfl⟩

theorem snapshot_pc (b : Micro.St) (rd : Reader) (o : Nat) : (snapshot b rd o).pc = .done := by
  unfold snapshot; split <;> rfl

@[elab_as_elim]
theorem runReader_cases {motive : Reader → Prop} (b : Micro.St) (rd : Reader)
    (idle : rd.pc = .done → motive rd)
    (notFound : rd.pc = .start → b.map rd.n = none → motive { rd with pc := .done, res := some .notFound })
    (wait : ∀ o, rd.pc = .start ∧ b.map rd.n = some o ∨ rd.pc = .wait o → (b.objs o).holder ≠ none → motive { rd with pc := .wait o })
    (read : ∀ o, rd.pc = .start ∧ b.map rd.n = some o ∨ rd.pc = .wait o → (b.objs o).holder = none → motive (snapshot b rd o)) :
    motive (runReader b rd) := by
  fun_cases runReader b rd
  case case1 h => exact idle h                              -- done
  case case2 h hm => exact notFound h hm                     -- start, no such channel
  case case3 h o hm hf => exact read o (.inl ⟨h, hm⟩) hf     -- start, lock free
  case case4 h o hm hf => exact wait o (.inl ⟨h, hm⟩) hf     -- start, a writer has the lock
  case case5 o h hf => exact read o (.inr h) hf              -- wait, lock free
  case case6 o h hf =>                                       -- wait, a writer still has the lock: the record stays as it is
    exact (show rd = { rd with pc := .wait o } by cases rd; cases h; rfl) ▸ wait o (.inr h) hf

theorem runReader_n (b : Micro.St) (rd : Reader) : (runReader b rd).n = rd.n ∧ (runReader b rd).u = rd.u :=
  runReader_cases b rd (fun _ => ⟨rfl, rfl⟩) (fun _ _ => ⟨rfl, rfl⟩) (fun _ _ _ => ⟨rfl, rfl⟩)
    (fun o _ _ => by unfold snapshot; split <;> exact ⟨rfl, rfl⟩)

def ReaderOK (b : Micro.St) (rd : Reader) : Prop :=
  (∀ o, rd.pc = .wait o → o < b.next ∧ (b.objs o).name = rd.n) ∧ (rd.pc ≠ .done → rd.res = none)

theorem WF.reader {s : St} (h : WF s) (r : Nat) : ReaderOK s.base (s.readers r) := ⟨h.rinv r, h.rres r⟩

theorem ReaderOK.run {b : Micro.St} {rd : Reader} (hi : Micro.Inv b) (h : ReaderOK b rd) : ReaderOK b (runReader b rd) := by
  refine runReader_cases b rd (fun _ => h) (fun _ _ => ⟨nofun, fun hp => absurd rfl hp⟩) (fun o ho _ => ?_)
    (fun o _ _ => ⟨fun o' hw => (by rw [snapshot_pc] at hw; cases hw), fun hp => absurd (snapshot_pc b rd o) hp⟩)
  refine ⟨fun o' hw => ?_, fun _ => h.2 (fun hd => by rcases ho with ⟨hs, _⟩ | hw <;> simp [hd] at *)⟩
  cases hw
  exact ho.elim (fun hs => ⟨hi.fresh_map _ _ hs.2, hi.named _ _ hs.2⟩) (h.1 o)

theorem ReaderOK.step {b : Micro.St} {rd : Reader} (h : ReaderOK b rd) (l : Micro.Label) : ReaderOK (Micro.step b l) rd :=
  ⟨fun o hw => ⟨Nat.lt_of_lt_of_le (h.1 o hw).1 (step_keeps b l).next, ((step_keeps b l).name o (h.1 o hw).1).trans (h.1 o hw).2⟩,
    h.2⟩

theorem wf_step (s : St) (h : WF s) (l : Label) : WF (step s l) := by
  have upd : ∀ (r : Nat) (rd : Reader), ReaderOK s.base rd →
      WF { s with readers := fun i => if i = r then rd else s.readers i } := fun r rd hrd =>
    have all : ∀ i, ReaderOK s.base (if i = r then rd else s.readers i) := fun i => by split; exact hrd; exact h.reader i
    ⟨h.strict, h.inv, fun i => (all i).1, fun i => (all i).2⟩
  cases l with
  | base bl =>
    exact ⟨(step_strict ..).trans h.strict, inv_step _ h.strict h.inv bl, fun r => ((h.reader r).step bl).1,
      fun r => ((h.reader r).step bl).2⟩
  | rspawn r u n =>
    simp only [step]
    split
    · exact upd r _ ⟨nofun, fun _ => rfl⟩
    · exact h
  | rrun r => exact upd r _ ((h.reader r).run h.inv)

theorem run_append (s : St) (a b : List Label) : run s (a ++ b) = run (run s a) b := List.foldl_append

theorem wf_run (s : St) (h : WF s) (ls : List Label) : WF (run s ls) :=
  List.foldlRecOn ls step h fun s hs l _ => wf_step s hs l

/-- no writer is suspended inside channel `n` -/
def Settled (b : Micro.St) (n : Name) : Prop := ∀ t o, b.map n = some o → ¬ holds b t o

theorem settled_not_tentative {b : Micro.St} {n : Name} (h : Settled b n) : ¬ Tentative b n :=
  fun ⟨t, o, hm, hpc⟩ => h t o hm (.inl hpc)

theorem reader_observes (s : St) (h : WF s) (r : Nat) (ms : List User) (hpc : (s.readers r).pc ≠ .done)
    (hres : (runReader s.base (s.readers r)).res = some (.ok ms)) :
    membersOf s.base (s.readers r).n = ms ∧ (s.readers r).u ∈ ms ∧ Settled s.base (s.readers r).n := by
  have hnone := h.rres r hpc
  revert hres
  refine runReader_cases s.base (s.readers r) (fun hd => absurd hd hpc) (fun _ _ hres => by cases hres)
    (fun o _ _ hres => by rw [show _ = (s.readers r).res from rfl, hnone] at hres; cases hres) (fun o ho hfree hres => ?_)
  -- the snapshot: a member list with the requester in it is not empty, so the object is the one the map has
  unfold snapshot at hres
  split at hres
  · next hu =>
    cases hres
    have hm : s.base.map (s.readers r).n = some o := ho.elim And.right fun hw =>
      (h.rinv r o hw).2 ▸ h.inv.stale_empty o (List.ne_nil_of_mem hu)
    refine ⟨by simp [membersOf, hm], hu, fun t o' hm' hold => ?_⟩
    cases hm.symm.trans hm'
    rw [h.inv.pc_holder t o hold] at hfree
    cases hfree
  · cases hres

/-- a reader that waited on an object which has left the map meanwhile is refused: it never reads a removed channel -/
theorem reader_refused_on_removed_object (s : St) (h : WF s) (r o : Nat) (hw : (s.readers r).pc = .wait o)
    (hgone : s.base.map (s.readers r).n ≠ some o) (hfree : (s.base.objs o).holder = none) :
    (runReader s.base (s.readers r)).res = some .notMember := by
  have hempty : (s.base.objs o).members = [] := Classical.byContradiction fun he =>
    hgone ((h.rinv r o hw).2 ▸ h.inv.stale_empty o he)
  have hrun : runReader s.base (s.readers r) = snapshot s.base (s.readers r) o := by simp only [runReader, hw, hfree, if_true]
  rw [hrun, snapshot, hempty, if_neg List.not_mem_nil]

/-- while a writer holds the lock, a waiting reader stays where it is and has no result -/
theorem reader_waits_for_writer (s : St) (r o : Nat) (hw : (s.readers r).pc = .wait o)
    (hheld : (s.base.objs o).holder ≠ none) : runReader s.base (s.readers r) = s.readers r := by
  simp [runReader, hw, hheld]

theorem step_readers (s : St) (l : Label) (r : Nat) :
    (step s l).readers r = s.readers r ∨
    l = .rrun r ∧ (s.readers r).pc ≠ .done ∧ (step s l).readers r = runReader s.base (s.readers r) ∨
    ∃ u n, l = .rspawn r u n ∧ ((step s l).readers r).res = none := by
  cases l with
  | base bl => exact .inl rfl
  | rspawn r' u n =>
    simp only [step]
    split
    · by_cases hrr : r = r'
      · exact .inr (.inr ⟨u, n, hrr ▸ rfl, congrArg Reader.res (if_pos hrr)⟩)
      · exact .inl (if_neg hrr)
    · exact .inl rfl
  | rrun r' =>
    by_cases hrr : r = r'
    · subst hrr
      by_cases hd : (s.readers r).pc = .done
      · exact .inl ((if_pos rfl).trans (by rw [runReader, hd]))
      · exact .inr (.inl ⟨rfl, hd, if_pos rfl⟩)
    · exact .inl (if_neg hrr)

/-- the left disjunct (the record is the one the schedule started with) is impossible from `init`, where no record has a result -/
theorem snapshot_origin (s0 : St) (ls : List Label) (r : Nat) (ms : List User)
    (h : ((run s0 ls).readers r).res = some (.ok ms)) :
    (run s0 ls).readers r = s0.readers r ∨
    ∃ ls₁ ls₂, ls = ls₁ ++ .rrun r :: ls₂ ∧
      ((run s0 ls₁).readers r).pc ≠ .done ∧
      runReader (run s0 ls₁).base ((run s0 ls₁).readers r) = (run s0 ls).readers r := by
  induction ls generalizing s0 with
  | nil => exact .inl rfl
  | cons l ls ih =>
    rcases ih (step s0 l) h with heq | ⟨ls₁, ls₂, hsplit, hpc, hrec⟩
    · -- no step after `l` has touched the record
      replace heq : (run s0 (l :: ls)).readers r = (step s0 l).readers r := heq
      rcases step_readers s0 l r with hsame | ⟨rfl, hpc, hrun⟩ | ⟨u, n, rfl, hnone⟩
      · exact .inl (heq.trans hsame)
      · exact .inr ⟨[], ls, rfl, hpc, hrun.symm.trans heq.symm⟩
      · rw [heq, hnone] at h
        cases h
    · exact .inr ⟨l :: ls₁, ls₂, congrArg (l :: ·) hsplit, hpc, hrec⟩

/-- **C01 / C02 / C04 under interleaving.**  For every schedule of writers (JOIN, LEAVE, clean-up, with every notification outcome
    and cancellation) and readers: a BROADCAST or MEMBERS request that completes with a member list `ms` obtained it in one
    segment of its own processing; at that moment `ms` was exactly the member list of the channel the map held under the requested
    name, the requester was in it, and no writer was suspended inside that channel — so no recipient is a tentative member whose
    JOIN may still be rolled back, and nobody who was a member at that moment is missing. -/
theorem C01_micro_snapshot_is_a_moment_of_the_request (ls : List Label) (r : Nat) (ms : List User)
    (h : ((run (init true) ls).readers r).res = some (.ok ms)) :
    ∃ ls₁ ls₂, ls = ls₁ ++ .rrun r :: ls₂ ∧
      let s := run (init true) ls₁
      let fin := (run (init true) ls).readers r
      (s.readers r).pc ≠ .done ∧ (s.readers r).u = fin.u ∧ (s.readers r).n = fin.n ∧
      membersOf s.base fin.n = ms ∧ fin.u ∈ ms ∧ Settled s.base fin.n ∧ ¬ Tentative s.base fin.n := by
  rcases snapshot_origin (init true) ls r ms h with heq | ⟨ls₁, ls₂, hsplit, hpc, hrec⟩
  · rw [heq] at h; simp [init, idleReader] at h
  · refine ⟨ls₁, ls₂, hsplit, ?_⟩
    have hwf := wf_run (init true) wf_init ls₁
    have hn := runReader_n (run (init true) ls₁).base ((run (init true) ls₁).readers r)
    rw [hrec] at hn
    obtain ⟨o1, o2, o3⟩ := reader_observes _ hwf r ms hpc (hrec ▸ h)
    simp only
    rw [hn.1, hn.2]
    exact ⟨hpc, rfl, rfl, o1, o2, o3, settled_not_tentative o3⟩

/-- **C02 under interleaving**: a user who is a member of the channel at every moment at which the request is in progress is in
    the snapshot the broadcast is routed to -/
theorem C02_micro_member_throughout_is_reached (ls : List Label) (r : Nat) (ms : List User) (u : User)
    (h : ((run (init true) ls).readers r).res = some (.ok ms))
    (hm : ∀ ls₁ ls₂, ls = ls₁ ++ ls₂ → ((run (init true) ls₁).readers r).pc ≠ .done →
      u ∈ membersOf (run (init true) ls₁).base ((run (init true) ls₁).readers r).n) : u ∈ ms := by
  obtain ⟨ls₁, ls₂, hsplit, hpc, _, hn, hmem, _⟩ := C01_micro_snapshot_is_a_moment_of_the_request ls r ms h
  have := hm ls₁ (.rrun r :: ls₂) hsplit hpc
  rw [hn] at this
  rw [← hmem]; exact this

/-- the writer steps of a schedule -/
def baseLabels : List Label → List Micro.Label
  | [] => []
  | .base bl :: ls => bl :: baseLabels ls
  | _ :: ls => baseLabels ls

/-- readers never disturb the writers: the membership state after a schedule is that of its writer steps alone -/
theorem readers_do_not_interfere (s : St) (ls : List Label) : (run s ls).base = Micro.run s.base (baseLabels ls) := by
  induction ls generalizing s with
  | nil => rfl
  | cons l ls ih =>
    refine (ih (step s l)).trans ?_
    cases l with
    | base bl => rfl
    | rspawn r u n => exact congrArg (Micro.run · _) (show (step s (.rspawn r u n)).base = s.base by simp only [step]; split <;> rfl)
    | rrun r => rfl

open Narwhal.Generated in
/-- **the reader steps are the code's**: `broadcast_payload` and `list_members` look the channel up, take its lock in read mode,
    check membership, copy and unlock without a suspension point in between (so `snapshot` is one segment), and the list a broadcast
    copies is recomputed from the member set by every insertion and removal (so the copy *is* the member list, filtered by the
    read ACL) -/
theorem readers_table_ok :
    broadcastReadsUnderLock = true ∧ membersReadsUnderLock = true ∧ targetsFollowMembers = true := by decide

/-- the premises are satisfiable: user 1 owns channel 7; user 2's JOIN is suspended in its notification when user 1 broadcasts; the broadcast waits; the
    notification fails (roll-back); the broadcast then sees `[1]` — user 2 was never a recipient -/
def waitingSchedule : List Label :=
  [ .base (.spawn 0 .join 1 7), .base (.run 0 {}), .base (.run 0 {}),
    .base (.spawn 1 .join 2 7), .base (.run 1 {}),
    .rspawn 0 1 7, .rrun 0,
    .base (.run 1 { ok := false }),
    .rrun 0 ]

example : ((run (init true) (waitingSchedule.take 7)).readers 0).pc = .wait 0 := by decide
example : ((run (init true) waitingSchedule).readers 0).res = some (.ok [1]) := by decide

#print axioms C01_micro_snapshot_is_a_moment_of_the_request
#print axioms C02_micro_member_throughout_is_reached
#print axioms reader_refused_on_removed_object
#print axioms reader_waits_for_writer
#print axioms readers_do_not_interfere
#print axioms readers_table_ok

end Narwhal.MicroB
