import Narwhal.Model.Links
/-!
# C06 — the S2M and M2S links: nothing acts before the handshake, the secret is compared whole, state only advances
-/
namespace Narwhal.Links
open Narwhal.Generated

/-- the dispatch tables as the properties need them (re-decided on the tables regenerated from the source on every run):
    each link's connecting state accepts its own CONNECT and nothing else; no CONNECT / IDENTIFY / AUTH kind is accepted
    again after authentication; the C2S pre-authentication states accept only their handshake kinds; the default arms
    refuse; the secret is compared whole; the version is checked; the engine asserts that states only advance. -/
theorem dispatch_table_ok :
    s2mConnecting = ["S2mConnect"] ∧ m2sConnecting = ["M2sConnect"] ∧
    c2sConnecting = ["Connect"] ∧ (∀ k ∈ c2sConnected, k = "Auth" ∨ k = "Identify") ∧
    (∀ k ∈ ["Connect", "Identify", "Auth", "S2mConnect", "M2sConnect"], k ∉ c2sAuthed ∧ k ∉ s2mAuthed ∧ k ∉ m2sAuthed) ∧
    (∀ k ∈ s2mAuthed, k ∈ ["S2mAuth", "S2mModDirect", "S2mForwardBroadcastPayload", "S2mForwardEvent"]) ∧
    (∀ k ∈ m2sAuthed, k ∈ ["M2sModDirect"]) ∧
    defaultArmsRefuse = true ∧ secretComparedWhole = true ∧ versionChecked = true ∧ stateOrderAsserted = true := by
  decide

def connectKind : Link → String
  | .s2m => "S2mConnect"
  | .m2s => "M2sConnect"

theorem connecting_only_connect (l : Link) (k : String) : k ∈ connectingTable l ↔ k = connectKind l := by
  obtain ⟨h1, h2, _⟩ := dispatch_table_ok
  cases l <;> simp [connectingTable, connectKind, h1, h2]

/-- **C06 (links: nothing before the handshake)**: on an unauthenticated link no message of any kind, with any
    parameters, reaches an operational handler; the only thing that is not a refusal-and-close is the acknowledgement of
    the link's own CONNECT with version 1 and, when a secret is configured, exactly that secret. -/
theorem C06_link_pre_auth_inert (cfg : Cfg) (m : Msg) :
    (step cfg false m).2 ≠ .handled ∧
    ((step cfg false m).1 = true →
        m.kind = connectKind cfg.link ∧ m.version = 1 ∧ (cfg.secret = none ∨ m.secret = cfg.secret) ∧ (step cfg false m).2 = .ack) ∧
    ((step cfg false m).1 = false → ((step cfg false m).2).closes = true) := by
  have hk := connecting_only_connect cfg.link m.kind
  unfold step
  simp only [Bool.not_false, if_true]
  -- the three refusals `(false, .refused _)`: not handled, not authenticated, closing
  split
  · next hin =>
    split
    · exact ⟨nofun, nofun, fun _ => rfl⟩
    · next hv =>
      split
      · exact ⟨nofun, nofun, fun _ => rfl⟩
      · next hs =>
        refine ⟨nofun, fun _ => ⟨hk.mp hin, by omega, ?_, rfl⟩, nofun⟩
        cases hc : cfg.secret with
        | none => exact .inl rfl
        | some s => exact .inr (by simpa [hc] using hs)
  · exact ⟨nofun, nofun, fun _ => rfl⟩

/-- **C06 (links: the shared secret is compared whole)**: with a secret configured, a link is acknowledged only when it
    presented exactly that secret — not a prefix, an extension, the empty string or nothing. -/
theorem C06_link_secret_exact (cfg : Cfg) (s : String) (hc : cfg.secret = some s) (m : Msg)
    (h : (step cfg false m).1 = true) : m.secret = some s := by
  obtain ⟨_, h2, _⟩ := C06_link_pre_auth_inert cfg m
  obtain ⟨_, _, h3, _⟩ := h2 h
  rcases h3 with h3 | h3
  · rw [hc] at h3; cases h3
  · rw [h3, hc]

/-- **C06 (links: state only advances)**: an authenticated link stays authenticated whatever arrives (a refusal closes
    it); in particular a second CONNECT is refused with UNEXPECTED_MESSAGE, so version, secret and negotiated values never
    change. -/
theorem C06_link_state_monotone (cfg : Cfg) (m : Msg) :
    (step cfg true m).1 = true ∧ (m.kind = connectKind cfg.link → (step cfg true m).2 = .refused "UNEXPECTED_MESSAGE") := by
  obtain ⟨_, _, _, _, h5, _⟩ := dispatch_table_ok
  unfold step
  simp only [Bool.not_true, Bool.false_eq_true, if_false]
  refine ⟨by
    split
    · rfl
    · split <;> rfl, ?_⟩
  intro hk
  have hp : m.kind ≠ "Pong" := by
    cases hl : cfg.link <;> simp only [hl, connectKind] at hk <;> rw [hk] <;> decide
  have : m.kind ∉ authedTable cfg.link := by
    cases hl : cfg.link <;> simp only [hl, connectKind] at hk <;> simp only [authedTable]
    · exact (h5 m.kind (by simp [hk])).2.1
    · exact (h5 m.kind (by simp [hk])).2.2
  rw [if_neg hp, if_neg this]

/-- over a whole conversation: every output before the first acknowledgement is a refusal (and ends the conversation) -/
theorem C06_link_run_inert (cfg : Cfg) (ms : List Msg) :
    ∀ o ∈ run cfg false ms, o = .handled → ∃ m ∈ ms, (step cfg false m).2 = .ack := by
  induction ms with
  | nil => nofun
  | cons m rest ih =>
    intro o ho hh
    obtain ⟨hne, hack, -⟩ := C06_link_pre_auth_inert cfg m
    simp only [run] at ho
    split at ho
    · exact absurd (List.mem_singleton.mp ho ▸ hh) hne
    · rcases List.mem_cons.mp ho with rfl | ho
      · exact absurd hh hne
      · cases ha : (step cfg false m).1 with
        | true => exact ⟨m, by simp, (hack ha).2.2.2⟩
        | false =>
          rw [ha] at ho
          obtain ⟨m', hm', hack'⟩ := ih o ho hh
          exact ⟨m', by simp [hm'], hack'⟩

-- non-vacuity
example : step { link := .m2s, secret := some "a_test_secret" } false ⟨"M2sConnect", 1, some "a"⟩ = (false, .refused "UNAUTHORIZED") := by decide
example : step { link := .m2s, secret := some "a_test_secret" } false ⟨"M2sConnect", 1, some "a_test_secret"⟩ = (true, .ack) := by decide
example : step { link := .s2m, secret := none } false ⟨"S2mAuth", 1, none⟩ = (false, .refused "UNEXPECTED_MESSAGE") := by decide
example : run { link := .s2m, secret := none } false [⟨"S2mConnect", 1, some "x"⟩, ⟨"S2mAuth", 1, none⟩, ⟨"S2mConnect", 1, none⟩, ⟨"S2mAuth", 1, none⟩] =
    [.ack, .handled, .refused "UNEXPECTED_MESSAGE"] := by decide

end Narwhal.Links

#print axioms Narwhal.Links.dispatch_table_ok
#print axioms Narwhal.Links.C06_link_pre_auth_inert
#print axioms Narwhal.Links.C06_link_secret_exact
#print axioms Narwhal.Links.C06_link_state_monotone
#print axioms Narwhal.Links.C06_link_run_inert
