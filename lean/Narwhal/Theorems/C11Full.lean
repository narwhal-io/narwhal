import Narwhal.Theorems.C11
/-!
# C11 — the whole-message round trip

`decode (encode m) = m` for every well-typed message of every kind of any well-formed schema.  The loop reads back, for any list
of `(field, value)` entries in any order, exactly `pairsOf` of each entry in turn (`readParams_fields`: no typing needed, the
scanner returns the bytes `rawOf` of every scalar); assigning those pairs entry by entry fills the slots whatever the order of the
entries (`assign_entries`: typing turns `rawOf x` back into `x`); the canonical order the derive macro writes (`id` first, then by
name) enters only as a permutation (`canonical_perm`).
-/
namespace Narwhal.Codec

theorem readParams_seek_congr {s s' : Bytes} (h : seekChar s = seekChar s') (n : Nat) (cur : Option (Bytes × Nat)) :
    readParams n s cur = readParams n s' cur := by
  cases n with
  | zero => rfl
  | succ n =>
    rcases cur with _ | ⟨nm, c⟩
    · rw [readParams_param (Nat.add_one_ne_zero n), readParams_param (Nat.add_one_ne_zero n), h]
    · simp only [readParams_value, readEscaped, h]

/-! The fuel is counted exactly: one round per value, written `n + k` so that `n + (k + 1)` is `(n + k) + 1` by
definition. -/

theorem readParams_scalar {x : Scalar} {e : Bytes} (nm tail : Bytes) (c n : Nat) (ps : List (Bytes × Bytes))
    (he : encScalar x = .ok e) (ht : Sep tail)
    (hrest : readParams n tail (if c = 0 then none else some (nm, c)) = .ok ps) :
    readParams (n + 1) (e ++ tail) (some (nm, c + 1)) = .ok ((nm, rawOf x) :: ps) := by
  obtain ⟨tail', h1, h2⟩ := readEscaped_encScalar tail he ht
  simp [readParams_value, h1, readParams_seek_congr h2, hrest]

theorem readParams_slice (nm : Bytes) {vs : List Scalar} {a : Bytes} (tail : Bytes) (n : Nat) (qs : List (Bytes × Bytes))
    (hne : vs ≠ []) (he : encSlice vs = .ok a) (ht : Sep tail) (hrest : readParams n tail none = .ok qs) :
    readParams (n + vs.length) (a ++ tail) (some (nm, vs.length)) = .ok (vs.map (fun x => (nm, rawOf x)) ++ qs) := by
  induction vs generalizing a with
  | nil => exact absurd rfl hne
  | cons x r ih =>
    cases r with
    | nil => exact readParams_scalar nm tail 0 n qs he ht hrest
    | cons y r =>
      obtain ⟨a1, a2, h1, h2, rfl⟩ := encSlice_cons_cons he
      rw [List.append_assoc]
      refine readParams_scalar nm (32 :: (a2 ++ tail)) (y :: r).length _ _ h1 (.inr ⟨_, rfl⟩) ?_
      rw [if_neg (by simp), readParams_seek_congr (seekChar_space _)]
      exact ih (by simp) h2

theorem encSlice_length {vs : List Scalar} {a : Bytes} (he : encSlice vs = .ok a) : 2 * vs.length ≤ a.length + 1 := by
  induction vs generalizing a with
  | nil => simp
  | cons x r ih =>
    cases r with
    | nil =>
      have := List.length_pos_iff.mpr (encScalar_ne_nil he)
      simp only [List.length_cons, List.length_nil]; omega
    | cons y r =>
      obtain ⟨a1, a2, h1, h2, rfl⟩ := encSlice_cons_cons he
      have := List.length_pos_iff.mpr (encScalar_ne_nil h1)
      have := ih h2
      simp only [List.length_cons, List.length_append] at this ⊢; omega

def pairsOf (p : Field × FVal) : List (Bytes × Bytes) := (scalarsOf p.2).map fun x => (p.1.name, rawOf x)

theorem length_pairsOf (p : Field × FVal) : (pairsOf p).length = (scalarsOf p.2).length := by simp [pairsOf]

theorem readParams_field {f : Field} {v : FVal} {e : Bytes} (tail : Bytes) {n : Nat} {qs : List (Bytes × Bytes)}
    (hn : NameOK f) (hcnt : (scalarsOf v).length ≤ 2 ^ 64 - 1) (he : encField f v = .ok e) (ht : Sep tail)
    (hrest : readParams n tail none = .ok qs) :
    readParams (n + (scalarsOf v).length) (e ++ tail) none = .ok (pairsOf (f, v) ++ qs) := by
  obtain ⟨hv, rfl⟩ | ⟨hv, cnt, a, hc, ha, rfl⟩ := encField_ok he
  · simpa [pairsOf, hv] using hrest
  · have hk : (scalarsOf v).length ≠ 0 := by simpa using hv
    have hseek : seekChar (32 :: f.name ++ cnt ++ 61 :: a ++ tail) = some (f.name ++ (cnt ++ 61 :: (a ++ tail))) := by
      simpa using seekChar_plain (cnt ++ 61 :: (a ++ tail)) hn.1 fun b hb => (optionName_byte (hn.2 b hb)).2.2.2
    have hpar : readParameter (f.name ++ (cnt ++ 61 :: (a ++ tail))) = .ok (f.name, (scalarsOf v).length, a ++ tail) := by
      rcases hc with ⟨rfl, h1⟩ | rfl
      · exact h1 ▸ C11_param_name_roundtrip f.name (a ++ tail) hn.2
      · simpa using C11_param_count_roundtrip f.name (a ++ tail) _ hn.2 hk hcnt
    rw [readParams_param (by omega), hseek]
    simp only [hpar]
    exact readParams_slice f.name tail n qs hv ha ht hrest

theorem encFields_sep {L : List (Field × FVal)} {e : Bytes} (he : encFields L = .ok e) : Sep e := by
  induction L generalizing e with
  | nil => cases he; exact .inl rfl
  | cons p rest ih =>
    obtain ⟨a, b, ha, hb, rfl⟩ := encFields_cons he
    obtain ⟨_, rfl⟩ | ⟨_, _, _, _, _, rfl⟩ := encField_ok ha
    · exact ih hb
    · exact .inr ⟨_, rfl⟩

theorem readParams_fields {L : List (Field × FVal)} {e : Bytes} (n : Nat) (hn : ∀ p ∈ L, NameOK p.1)
    (hcnt : ∀ p ∈ L, (scalarsOf p.2).length ≤ 2 ^ 64 - 1) (he : encFields L = .ok e) :
    readParams (n + 1 + (L.flatMap pairsOf).length) e none = .ok (L.flatMap pairsOf) := by
  induction L generalizing e with
  | nil => cases he; simp [readParams_param, seekChar]
  | cons p rest ih =>
    obtain ⟨a, b, ha, hb, rfl⟩ := encFields_cons he
    have := readParams_field b (hn p (by simp)) (hcnt p (by simp)) ha (encFields_sep hb)
      (ih (fun q hq => hn q (by simp [hq])) (fun q hq => hcnt q (by simp [hq])) hb)
    simp only [List.flatMap_cons, List.length_append]
    rwa [Nat.add_comm (pairsOf p).length, ← Nat.add_assoc, length_pairsOf]

/-- every value takes a separator and at least one byte, so the fuel `decode` gives the loop is enough -/
theorem encFields_length {L : List (Field × FVal)} {e : Bytes} (he : encFields L = .ok e) :
    2 * (L.flatMap pairsOf).length ≤ e.length := by
  induction L generalizing e with
  | nil => cases he; simp
  | cons p rest ih =>
    obtain ⟨a, b, ha, hb, rfl⟩ := encFields_cons he
    have := ih hb
    obtain ⟨hv, rfl⟩ | ⟨_, _, a', _, ha', rfl⟩ := encField_ok ha
    · simpa [length_pairsOf, hv] using this
    · have := encSlice_length ha'
      simp only [List.flatMap_cons, List.length_append, List.length_cons, length_pairsOf]; omega

/-- what `assign` does to the slot of the field that takes a decoded scalar -/
def upd (f : Field) (v : FVal) (x : Scalar) : FVal :=
  match f.kind, v with
  | .regular, _ => .reg x
  | .optional, _ => .opt (some x)
  | .vec, .vec old => .vec (old ++ [x])
  | .vec, _ => .vec [x]

theorem assign_hit (pre post : List Field) (vpre vpost : List FVal) (f : Field) (v : FVal) (raw : Bytes) (x : Scalar)
    (hlen : pre.length = vpre.length) (hfresh : ∀ g ∈ pre, g.name ≠ f.name) (hdec : decScalar f.ty raw = some x) :
    assign (pre ++ f :: post) (vpre ++ v :: vpost) f.name raw = some (vpre ++ upd f v x :: vpost) := by
  induction pre generalizing vpre with
  | nil =>
    obtain rfl := List.length_eq_zero_iff.mp hlen.symm
    simp only [List.nil_append, assign, if_true, hdec, upd]
    cases f.kind <;> cases v <;> rfl
  | cons g gs ih =>
    cases vpre with
    | nil => simp at hlen
    | cons w ws =>
      simp [assign, hfresh g (by simp), ih ws (by simpa using hlen) (fun g' hg' => hfresh g' (by simp [hg']))]

theorem assignAll_append (fields : List Field) (vals : List FVal) (ps qs : List (Bytes × Bytes)) :
    assignAll fields vals (ps ++ qs) = (assignAll fields vals ps).bind (fun v => assignAll fields v qs) := by
  induction ps generalizing vals with
  | nil => rfl
  | cons p rest ih =>
    simp only [List.cons_append, assignAll]
    cases assign fields vals p.1 p.2 with
    | none => rfl
    | some v' => exact ih v'

theorem assignAll_field (pre post : List Field) (vpre vpost : List FVal) (f : Field) (v : FVal) (xs : List Scalar)
    (hlen : pre.length = vpre.length) (hfresh : ∀ g ∈ pre, g.name ≠ f.name) (hwt : ∀ x ∈ xs, ScalarWT f.ty x) :
    assignAll (pre ++ f :: post) (vpre ++ v :: vpost) (xs.map fun x => (f.name, rawOf x)) =
      some (vpre ++ xs.foldl (upd f) v :: vpost) := by
  induction xs generalizing v with
  | nil => rfl
  | cons x xs ih =>
    simp only [List.map_cons, assignAll,
      assign_hit pre post vpre vpost f v _ x hlen hfresh (decScalar_rawOf (hwt x (by simp)))]
    exact ih _ fun y hy => hwt y (by simp [hy])

theorem foldl_upd_vec {f : Field} (hk : f.kind = .vec) (old xs : List Scalar) :
    xs.foldl (upd f) (.vec old) = .vec (old ++ xs) := by
  induction xs generalizing old with
  | nil => simp
  | cons x r ih => simp [upd, hk, ih]

theorem foldl_upd_default {f : Field} {v : FVal} (hwt : FValWT f v) : (scalarsOf v).foldl (upd f) (defaultVal f) = v := by
  rcases v with x | (_ | x) | vs
  · simp [scalarsOf, upd, hwt.1]
  · simp [scalarsOf, defaultVal, show f.kind = .optional from hwt]
  · simp [scalarsOf, upd, hwt.1]
  · simp [scalarsOf, defaultVal, hwt.1, foldl_upd_vec hwt.1]

theorem FValWT.scalars {f : Field} {v : FVal} (hwt : FValWT f v) : ∀ x ∈ scalarsOf v, ScalarWT f.ty x := by
  rcases v with x | (_ | x) | vs
  · simpa [scalarsOf] using hwt.2
  · simp [scalarsOf]
  · simpa [scalarsOf] using hwt.2
  · exact hwt.2

/-- slot values when the entries whose names are in `done` have been assigned and the others are still at their default -/
def stateOf (Z : List (Field × FVal)) (done : List Bytes) : List FVal :=
  Z.map (fun p => if p.1.name ∈ done then p.2 else defaultVal p.1)

theorem assign_entry {Z : List (Field × FVal)} (hnd : (Z.map (·.1.name)).Nodup) (done : List Bytes) {f : Field} {v : FVal}
    (hmem : (f, v) ∈ Z) (hfresh : f.name ∉ done) (hwt : FValWT f v) :
    assignAll (Z.map (·.1)) (stateOf Z done) (pairsOf (f, v)) = some (stateOf Z (done ++ [f.name])) := by
  obtain ⟨pre, post, rfl⟩ := List.append_of_mem hmem
  simp only [List.Nodup, List.pairwise_map, List.pairwise_append, List.pairwise_cons] at hnd
  have hpre : ∀ p ∈ pre, p.1.name ≠ f.name := fun p hp => hnd.2.2 p hp (f, v) (by simp)
  have hpost : ∀ p ∈ post, p.1.name ≠ f.name := fun p hp => (hnd.2.1.1 p hp).symm
  have hsame : ∀ L : List (Field × FVal), (∀ p ∈ L, p.1.name ≠ f.name) → stateOf L (done ++ [f.name]) = stateOf L done :=
    fun L h => List.map_congr_left fun p hp => by simp [h p hp]
  have hsplit : ∀ d, stateOf (pre ++ (f, v) :: post) d =
      stateOf pre d ++ (if f.name ∈ d then v else defaultVal f) :: stateOf post d := fun d => by simp [stateOf]
  rw [hsplit, hsplit, if_neg hfresh, if_pos (by simp), hsame pre hpre, hsame post hpost]
  simpa [pairsOf, foldl_upd_default hwt] using assignAll_field (pre.map (·.1)) (post.map (·.1)) (stateOf pre done)
    (stateOf post done) f (defaultVal f) (scalarsOf v) (by simp [stateOf]) (by simpa using hpre) hwt.scalars

theorem assign_entries {Z : List (Field × FVal)} (hnd : (Z.map (·.1.name)).Nodup) {L : List (Field × FVal)}
    (hsub : L ⊆ Z) (hL : (L.map (·.1.name)).Nodup) (hwt : ∀ e ∈ L, FValWT e.1 e.2) (done : List Bytes)
    (hfresh : ∀ e ∈ L, e.1.name ∉ done) :
    assignAll (Z.map (·.1)) (stateOf Z done) (L.flatMap pairsOf) = some (stateOf Z (done ++ L.map (·.1.name))) := by
  induction L generalizing done with
  | nil => simp [assignAll]
  | cons e rest ih =>
    have he := List.mem_cons_self (a := e) (l := rest)
    rw [List.map_cons, List.nodup_cons] at hL
    rw [List.flatMap_cons, assignAll_append, assign_entry hnd done (hsub he) (hfresh e he) (hwt e he), Option.bind_some,
      ih (fun q hq => hsub (List.mem_cons_of_mem _ hq)) hL.2 (fun q hq => hwt q (List.mem_cons_of_mem _ hq))]
    · simp
    · intro q hq hmem
      rcases List.mem_append.mp hmem with h | h
      · exact hfresh q (List.mem_cons_of_mem _ hq) h
      · exact hL.1 (List.mem_map.mpr ⟨q, hq, List.mem_singleton.mp h⟩)

theorem canonical_perm {Z : List (Field × FVal)} (hnd : (Z.map (·.1.name)).Nodup) : (canonical Z).Perm Z := by
  -- at most one entry is called `id`, so `take 1` drops nothing
  have hlen : (Z.filter (fun p => p.1.name = idName)).length ≤ 1 := by
    have := List.nodup_iff_count.mp hnd idName
    rw [List.count_eq_countP, List.countP_map, List.countP_eq_length_filter] at this
    simpa [Bool.beq_eq_decide_eq, Function.comp_def] using this
  unfold canonical
  rw [List.take_of_length_le hlen]
  exact (List.Perm.append_left _ (foldr_insertByName_perm _)).trans
    (by simpa using List.filter_append_perm (fun p : Field × FVal => decide (p.1.name = idName)) Z)

theorem findSpec_at {S : Schema} {k : Nat} {spec : MsgSpec} (i : Nat) (hk : S[k]? = some spec)
    (hnd : (S.map (·.wire)).Nodup) : findSpec S spec.wire i = some (i + k, spec) := by
  induction S generalizing i k with
  | nil => simp at hk
  | cons sp rest ih =>
    rw [List.map_cons, List.nodup_cons] at hnd
    cases k with
    | zero =>
      obtain rfl : sp = spec := by simpa using hk
      simp [findSpec]
    | succ k' =>
      rw [List.getElem?_cons_succ] at hk
      have hne : sp.wire ≠ spec.wire := fun heq => hnd.1 (heq ▸ List.mem_map_of_mem (List.mem_of_getElem? hk))
      simp only [findSpec, hne, if_false, ih (i + 1) hk hnd.2]
      congr 2; omega

/-- vectors hold fewer than 2^64 elements (a Rust `Vec` cannot hold more; the count is written as a `usize`) -/
def VecBounded (m : Msg) : Prop := ∀ v ∈ m.vals, (scalarsOf v).length ≤ 2 ^ 64 - 1

theorem zip_names_nodup {fields : List Field} {vals : List FVal} (hlen : vals.length = fields.length)
    (hnd : (fields.map (·.name)).Nodup) : ((fields.zip vals).map (·.1.name)).Nodup := by
  rw [← List.map_fst_zip (l₁ := fields) (l₂ := vals) (by omega), List.map_map] at hnd
  exact hnd

/-- **the decoder does not care in which order the parameters come** -/
theorem decode_of_perm {S : Schema} (hS : SchemaOK S = true) {m : Msg} {spec : MsgSpec} (hspec : S[m.kind]? = some spec)
    (hlen : m.vals.length = spec.fields.length) (hvals : ∀ p ∈ spec.fields.zip m.vals, FValWT p.1 p.2)
    (hvb : VecBounded m) (hvalid : validate spec m.vals = true) {L : List (Field × FVal)} {e : Bytes}
    (hperm : L.Perm (spec.fields.zip m.vals)) (he : encFields L = .ok e) : decode S (spec.wire ++ e) = .ok m := by
  obtain ⟨hw, hnames, hnd, hwnd⟩ := schemaOK_spec hS hspec
  obtain ⟨hwne, hwplain, _⟩ := bytesPlain_spec hw
  have hZnd := zip_names_nodup hlen hnd
  generalize hZ : spec.fields.zip m.vals = Z at hperm hvals hZnd
  have hZ1 : Z.map (·.1) = spec.fields := hZ ▸ List.map_fst_zip (by omega)
  have hZ2 : Z.map (·.2) = m.vals := hZ ▸ List.map_snd_zip (by omega)
  -- the fuel `decode` gives the loop, split as `readParams_fields` counts it
  have hsep := encFields_sep he
  have hbound := encFields_length he
  obtain ⟨g, hg⟩ : ∃ g, (e.drop 1).length + 1 = g + 1 + (L.flatMap pairsOf).length :=
    ⟨(e.drop 1).length - (L.flatMap pairsOf).length, by simp only [List.length_drop]; omega⟩
  have hloop := readParams_fields g (fun p hp => hnames p.1 (hZ1 ▸ List.mem_map_of_mem (hperm.subset hp)))
    (fun p hp => hvb p.2 (hZ2 ▸ List.mem_map_of_mem (hperm.subset hp))) he
  rw [← hg, ← readParams_seek_congr hsep.seek_drop] at hloop
  have hassign := assign_entries hZnd hperm.subset ((hperm.map (·.1.name)).nodup_iff.mpr hZnd)
    (fun p hp => hvals p (hperm.subset hp)) [] (by simp)
  have hdone : stateOf Z ([] ++ L.map (·.1.name)) = m.vals := by
    rw [← hZ2]
    exact List.map_congr_left fun p hp => by simp [List.mem_map_of_mem (f := (·.1.name)) (hperm.mem_iff.mpr hp)]
  rw [hZ1, hdone, show stateOf Z [] = spec.fields.map defaultVal by simp [stateOf, ← hZ1]] at hassign
  simp only [decode, readString_plain e hwne hwplain hsep, findSpec_at 0 hspec hwnd, Nat.zero_add, hloop,
    hassign, hvalid, if_true]

/-- **C11 (round trip), whole messages**: for every well-formed schema — in particular the one regenerated from
    `message.rs` — every well-typed message of every kind that the encoder accepts is written as a line whose body the
    decoder reads back as exactly that message. -/
theorem C11_roundtrip (S : Schema) (hS : SchemaOK S = true) (cap : Nat) (m : Msg) (body : Bytes) (hwt : MsgWT S m)
    (hvb : VecBounded m) (henc : encode S cap m = .ok (body ++ [10])) : decode S body = .ok m := by
  obtain ⟨spec, hspec, hlen, hvals⟩ := hwt
  obtain ⟨spec', psb, hspec', hvalid, hpsb, hl⟩ := encode_ok henc
  obtain rfl : spec = spec' := Option.some.inj (hspec ▸ hspec')
  obtain rfl : body = spec.wire ++ psb := List.append_cancel_right hl
  exact decode_of_perm hS hspec hlen hvals hvb hvalid
    (canonical_perm (zip_names_nodup hlen (schemaOK_spec hS hspec).2.2.1)) hpsb

/-- the same for the schema the code defines today -/
theorem C11_roundtrip_schema (cap : Nat) (m : Msg) (body : Bytes) (hwt : MsgWT Generated.schema m) (hvb : VecBounded m)
    (henc : encode Generated.schema cap m = .ok (body ++ [10])) : decode Generated.schema body = .ok m :=
  C11_roundtrip Generated.schema schema_ok cap m body hwt hvb henc

/-- `C11_roundtrip_full` as first stated has no bound on vector lengths; with the bound a Rust `Vec` satisfies by
    construction it is exactly `C11_roundtrip` -/
theorem C11_roundtrip_full_of_bounded (S : Schema) (hS : SchemaOK S = true) :
    ∀ (cap : Nat) (m : Msg) (body : Bytes), MsgWT S m → VecBounded m → encode S cap m = .ok (body ++ [10]) →
      decode S body = .ok m :=
  C11_roundtrip S hS

end Narwhal.Codec

#print axioms Narwhal.Codec.C11_roundtrip
#print axioms Narwhal.Codec.C11_roundtrip_schema
