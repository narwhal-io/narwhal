import Narwhal.Model.S2m
/-!
# C08 / C09 — the S2M client layer is fail-closed

Whatever comes back for a delegated request — any acknowledgement shape, an error, another frame kind, nothing at all,
a payload that cannot be read — the server concludes *accept* only from an explicit positive acknowledgement.
-/
namespace Narwhal.S2m

/-- **C09**: `Success` only from `S2M_AUTH_ACK succeeded=true` carrying a username — and then that username -/
theorem C09_success_only_on_positive_ack (r : Reply) (u : Str) (h : mapAuth r = .success u) :
    ∃ c, r = .authAck true (some u) c := by
  unfold mapAuth at h
  split at h <;> cases h
  exact ⟨_, rfl⟩

/-- a challenge is passed on only from a negative acknowledgement that carries one; it authenticates nobody -/
theorem C09_continue_only_with_challenge (r : Reply) (c : Str) (h : mapAuth r = .continue_ c) :
    ∃ un, r = .authAck false un (some c) := by
  unfold mapAuth at h
  split at h <;> cases h
  exact ⟨_, rfl⟩

/-- **C08**: a payload is let through only by `valid=true`, unaltered only when no payload was attached, altered only
    to the bytes of an attachment that arrived intact -/
theorem C08_valid_only_on_positive_ack (r : Reply) :
    (mapPayload r = .valid → r = .payloadAck true .none) ∧
    (∀ p, mapPayload r = .altered p → r = .payloadAck true (.intact p)) := by
  unfold mapPayload
  split
  · exact ⟨nofun, nofun⟩
  · exact ⟨nofun, fun _ h => by cases h; rfl⟩
  · exact ⟨fun _ => rfl, nofun⟩
  · exact ⟨nofun, nofun⟩
  · exact ⟨nofun, nofun⟩

/-- everything that is not an explicit acknowledgement of the right kind is an error or a rejection -/
theorem C08_C09_everything_else_fails (r : Reply) (h : ∀ s u c, r ≠ .authAck s u c) (h' : ∀ v a, r ≠ .payloadAck v a) :
    mapAuth r = .err ∧ mapPayload r = .err := by
  cases r with
  | authAck s u c => exact absurd rfl (h s u c)
  | payloadAck v a => exact absurd rfl (h' v a)
  | _ => exact ⟨rfl, rfl⟩

theorem event_ok_only_on_ack (r : Reply) (h : mapEvent r = true) : r = .eventAck := by
  cases r <;> simp [mapEvent] at h ⊢

#print axioms C09_success_only_on_positive_ack
#print axioms C09_continue_only_with_challenge
#print axioms C08_valid_only_on_positive_ack
#print axioms C08_C09_everything_else_fails

end Narwhal.S2m
