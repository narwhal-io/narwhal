import Narwhal.Model.Client
/-!
# C16 — delegated requests complete by their own reply; failures cost no capacity
-/
namespace Narwhal.Client

/-- ids in the table are pairwise distinct -/
def Keys (l : List (Nat × RState)) : Prop := (l.map (·.1)).Nodup

theorem get_set (l : List (Nat × RState)) (id j : Nat) (s : RState) :
    get (set l id s) j = if j = id then some s else get l j := by
  induction l with
  | nil => simp only [set, get, eq_comm]
  | cons p rest ih =>
    simp only [set]
    split
    · next h => simp only [get, h, eq_comm]; split <;> rfl
    · next h =>
      simp only [get, ih]
      split
      · next h' => rw [if_neg (h' ▸ h)]
      · rfl

theorem keys_set (l : List (Nat × RState)) (id : Nat) (s : RState) (hk : Keys l) : Keys (set l id s) := by
  have keys : ∀ l : List (Nat × RState), (set l id s).map (·.1) =
      if id ∈ l.map (·.1) then l.map (·.1) else l.map (·.1) ++ [id] := by
    intro l
    induction l with
    | nil => simp [set]
    | cons p rest ih =>
      simp only [set]
      split
      · next h => simp [h]
      · next h => simp only [List.map_cons, ih, List.mem_cons, Ne.symm h, false_or]; split <;> rfl
  unfold Keys at *
  rw [keys]
  split
  · exact hk
  · next hid => exact (List.perm_append_singleton _ _).nodup_iff.mpr (List.nodup_cons.mpr ⟨hid, hk⟩)

def permitOf : Option RState → Nat
  | some st => if st.holdsPermit then 1 else 0
  | none => 0

theorem holders_cons (p : Nat × RState) (l : List (Nat × RState)) : holders (p :: l) = permitOf (some p.2) + holders l := by
  simp only [holders, List.filter_cons, permitOf]
  split
  · exact Nat.add_comm ..
  · exact (Nat.zero_add _).symm

theorem holders_set (l : List (Nat × RState)) (id : Nat) (new : RState) :
    holders (set l id new) + permitOf (get l id) = holders l + permitOf (some new) := by
  induction l with
  | nil => simp only [set, get, holders_cons]; exact (Nat.zero_add _).symm
  | cons p rest ih =>
    simp only [set, get]
    split
    · simp only [holders_cons]; omega   -- the entry found: `new` stands where `p.2` stood
    · simp only [holders_cons]; omega   -- another entry: it is counted on both sides, the rest is `ih`

/-- the engine invariant: permits and permit-holding requests add up to the negotiated window -/
def Inv (s : St) : Prop := Keys s.reqs ∧ s.permits + holders s.reqs = s.max

/-- `written` is not the invariant's concern: any `w` -/
theorem inv_set {s : St} (h : Inv s) {id p : Nat} {old : Option RState} (ho : get s.reqs id = old) {new : RState}
    {w : List Nat} (hp : p + permitOf (some new) = s.permits + permitOf old) :
    Inv { s with permits := p, reqs := set s.reqs id new, written := w } := by
  have := holders_set s.reqs id new
  rw [ho] at this
  exact ⟨keys_set _ _ _ h.1, by have := h.2; simp only; omega⟩

theorem permitOf_dead {st : RState} (h : st.live = false) : permitOf (some st) = 0 := by
  cases st <;> first | rfl | cases h

/-- A step changes nothing (it is not enabled), answers a PING, or overwrites one entry `old` of the request table; then the
    permits move against what the old and the new entry account for, and a result is written only as the reply to a request in
    flight. -/
@[elab_as_elim]
theorem step_cases {motive : St → Prop} (s : St) (st : Step)
    (idle : motive s)
    (pong : ∀ id, motive { s with pongs := s.pongs ++ [id] })
    (write : ∀ id old new p w, get s.reqs id = old → p + permitOf (some new) = s.permits + permitOf old →
      (∀ r, new = .answered r → st = .reply id r ∧ old = some .inflight) →
      motive { s with permits := p, reqs := set s.reqs id new, written := w }) :
    motive (step s st) := by
  cases st <;> simp only [step]
  case submit id =>
    split
    · next st hg =>
      split
      · exact idle
      · next hl => exact write id _ _ _ _ hg (by rw [permitOf_dead (st := st) (Bool.not_eq_true _ ▸ hl)]; rfl) nofun
    · next hg => exact write id _ _ _ _ hg rfl nofun
  case grant id =>
    split
    · next hc => exact write id _ _ _ _ hc.1 (Nat.sub_add_cancel hc.2) nofun
    · exact idle
  case reply id r =>
    split
    · next hc => exact write id _ _ _ _ hc rfl fun r' h => by cases h; exact ⟨rfl, rfl⟩
    · exact idle
  case finish id =>
    split
    · next r hc => exact write id _ _ _ _ hc rfl nofun
    · exact idle
  case timeout id =>
    split
    · next hc => exact write id _ _ _ _ hc rfl nofun
    · next hc => exact write id _ _ _ _ hc rfl nofun
    · exact idle
  case ping id => exact pong id

theorem inv_step (s : St) (st : Step) (h : Inv s) : Inv (step s st) :=
  step_cases s st h (fun _ => h) fun _ _ _ _ _ ho hp _ => inv_set h ho hp

theorem step_max (s : St) (st : Step) : (step s st).max = s.max :=
  step_cases (motive := fun s' => s'.max = s.max) s st rfl (fun _ => rfl) fun _ _ _ _ _ _ _ _ => rfl

theorem inv_run (m : Nat) (l : List Step) : Inv (run (init m) l) ∧ (run (init m) l).max = m :=
  List.foldlRecOn l step (motive := fun s => Inv s ∧ s.max = m) ⟨by simp [Inv, init, Keys, holders], rfl⟩
    fun s hs st _ => ⟨inv_step s st hs.1, (step_max s st).trans hs.2⟩

/-- **window**: at most `max` requests are outstanding (written and not yet finished) at any time -/
theorem C16_window (m : Nat) (l : List Step) : holders (run (init m) l).reqs ≤ m := by
  obtain ⟨⟨-, h⟩, hm⟩ := inv_run m l
  omega

/-- **failures cost no capacity**: whenever no request holds a permit (all finished, timed out or still waiting),
    the whole window is available again — after any history, in particular any run of timeouts -/
theorem C16_capacity_conserved (m : Nat) (l : List Step) (h : holders (run (init m) l).reqs = 0) :
    (run (init m) l).permits = m := by
  obtain ⟨⟨-, h⟩, hm⟩ := inv_run m l
  omega

/-- **completed by its own reply and by nothing else**: the only step that gives request `id` a result is a
    reply frame carrying `id` while it is in flight, and that result is that frame's content -/
theorem C16_completed_by_own_id (s : St) (st : Step) (id r : Nat)
    (hbefore : get s.reqs id ≠ some (.answered r)) (hafter : get (step s st).reqs id = some (.answered r)) :
    st = .reply id r ∧ get s.reqs id = some .inflight := by
  revert hafter
  refine step_cases s st (absurd · hbefore) (fun _ => (absurd · hbefore)) fun j old new p w ho _ hw hafter => ?_
  -- the entry written is the one asked about, and it was written with exactly `answered r`
  simp only [get_set] at hafter
  split at hafter
  · next e => cases e; exact ho ▸ hw r (Option.some.inj hafter)
  · exact absurd hafter hbefore

/-- a delivered result is never replaced: duplicates, late or unsolicited frames and PINGs with the same id
    leave an answered / completed / timed-out request as it is -/
theorem C16_result_stable (s : St) (id r r' : Nat) (h : get s.reqs id = some (.answered r) ∨ get s.reqs id = some (.completed r)
    ∨ get s.reqs id = some .timedOut) :
    get (step s (.reply id r')).reqs id = get s.reqs id ∧ get (step s (.ping id)).reqs id = get s.reqs id := by
  constructor
  · simp only [step]
    split
    · next hc => rcases h with h | h | h <;> rw [h] at hc <;> cases hc
    · rfl
  · rfl

/-- **never hangs**: a live request can always be ended by its timeout, which returns any permit it holds -/
theorem C16_timeout_always_ends (s : St) (id : Nat) (h : get s.reqs id = some .waiting ∨ get s.reqs id = some .inflight) :
    get (step s (.timeout id)).reqs id = some .timedOut := by
  simp only [step]
  rcases h with h | h <;> simp [h, get_set]

/-- a PING never completes a request, whatever its id -/
theorem C16_ping_inert (s : St) (id : Nat) : (step s (.ping id)).reqs = s.reqs ∧ (step s (.ping id)).permits = s.permits := ⟨rfl, rfl⟩

-- non-vacuity: window 2; two requests time out; a third and fourth are then written at once
example : (run (init 2) [.submit 1, .grant 1, .submit 2, .grant 2, .timeout 1, .timeout 2, .submit 3, .grant 3, .submit 4, .grant 4]).written
    = [1, 2, 3, 4] := by decide

end Narwhal.Client

#print axioms Narwhal.Client.inv_step
#print axioms Narwhal.Client.C16_window
#print axioms Narwhal.Client.C16_capacity_conserved
#print axioms Narwhal.Client.C16_completed_by_own_id
#print axioms Narwhal.Client.C16_result_stable
#print axioms Narwhal.Client.C16_timeout_always_ends
#print axioms Narwhal.Client.C16_ping_inert
