import Narwhal.Lemmas.Emit
/-!
`Checked i? P x` says both sides of a check's result `x`: what the admitted data satisfy, and that a refusal is addressed to the request.
-/
namespace Narwhal.Server
open Narwhal.Acl (isAllowed)

/-- a refusal that bears no id closes the connection, so that no request is left unanswered on one that stays open -/
def Addressed (i? : Option Nat) (e : Refusal) : Prop := (e.1 = i? ∨ e.1 = none) ∧ (e.1 = none → e.2.recoverable = false)

theorem Addressed.own {i : Nat} {r : Reason} : Addressed (some i) (some i, r) := ⟨Or.inl rfl, nofun⟩

theorem Addressed.closing {i? : Option Nat} {r : Reason} (hr : r.recoverable = false) : Addressed i? (none, r) :=
  ⟨Or.inr rfl, fun _ => hr⟩

def Checked {α} (i? : Option Nat) (P : α → Prop) : Except Refusal α → Prop
  | .error e => Addressed i? e
  | .ok a => P a

section
variable {α : Type} {i? : Option Nat} {P Q : α → Prop} {x : Except Refusal α}

theorem Checked.ok {a : α} (h : Checked i? P x) (hx : x = .ok a) : P a := by
  subst hx; exact h

theorem Checked.addressed {e : Refusal} (h : Checked i? P x) (hx : x = .error e) : Addressed i? e := by
  subst hx; exact h

theorem Checked.imp (h : Checked i? P x) (hPQ : ∀ a, P a → Q a) : Checked i? Q x := by
  cases x with
  | error e => exact h
  | ok a => exact hPQ a h

end

theorem ownerCheck_checked {s u i h d} :
    Checked (some i) (fun c => d = s.cfg.domain ∧ findChan s.chans h = some c ∧ c.owner = some u) (ownerCheck s u i h d) := by
  fun_cases ownerCheck s u i h d
  · exact .own
  · exact .own
  · exact .own
  · next hd c hf ho => exact ⟨Decidable.of_not_not hd, hf, Decidable.of_not_not ho⟩

theorem getAclCheck_checked {s u i raw} :
    Checked (some i) (fun c => ∃ h, Id.parseChannelId raw = some (h, s.cfg.domain) ∧ findChan s.chans h = some c ∧ c.owner = some u)
      (getAclCheck s u i raw) := by
  fun_cases getAclCheck s u i raw
  · exact .closing rfl
  · next h d hp => exact ownerCheck_checked.imp fun c ⟨hd, hf, ho⟩ => ⟨h, by rw [hp, hd], hf, ho⟩

theorem setAclCheck_checked {s u i raw t a ns} :
    Checked (some i) (fun c =>
        (∃ h, Id.parseChannelId raw = some (h, s.cfg.domain) ∧ findChan s.chans h = some c ∧ c.owner = some u) ∧
          Acl.totalEntries (updatedAcl c t a ns) ≤ c.maxClients)
      (setAclCheck s u i raw t a ns) := by
  fun_cases setAclCheck s u i raw t a ns
  · exact .closing rfl
  · exact .closing rfl
  · next hoc => exact ownerCheck_checked.addressed hoc
  · exact .own
  · next h d hp _ c hoc hle =>
    obtain ⟨hd, hf, ho⟩ := ownerCheck_checked.ok hoc
    exact ⟨⟨h, by rw [hp, hd], hf, ho⟩, Nat.not_lt.mp hle⟩

theorem setConfigCheck_checked {s u i raw mc mp} :
    Checked (some i) (fun c =>
        (∃ h, Id.parseChannelId raw = some (h, s.cfg.domain) ∧ findChan s.chans h = some c ∧ c.owner = some u) ∧
          mc ≤ s.cfg.maxClients ∧ mp ≤ s.cfg.maxPayload)
      (setConfigCheck s u i raw mc mp) := by
  fun_cases setConfigCheck s u i raw mc mp
  · exact .closing rfl
  · exact .own
  · exact .own
  · exact .own
  · next h d hp _ h1 h2 =>
    exact ownerCheck_checked.imp fun c ⟨hd, hf, ho⟩ => ⟨⟨h, by rw [hp, hd], hf, ho⟩, Nat.not_lt.mp h1, Nat.not_lt.mp h2⟩

theorem membersCheck_checked {s u i raw} :
    Checked (some i) (fun c => (∃ h, Id.parseChannelId raw = some (h, s.cfg.domain) ∧ findChan s.chans h = some c) ∧ u ∈ c.members)
      (membersCheck s u i raw) := by
  fun_cases membersCheck s u i raw
  · exact .closing rfl
  · exact .own
  · exact .own
  · exact .own
  · next h d hp hd c hf hm => exact ⟨⟨h, by rw [hp, Decidable.of_not_not hd], hf⟩, Decidable.of_not_not hm⟩

theorem getConfigCheck_checked {s u i raw} :
    Checked (some i) (fun c => (∃ h d, Id.parseChannelId raw = some (h, d) ∧ findChan s.chans h = some c) ∧ u ∈ c.members)
      (getConfigCheck s u i raw) := by
  fun_cases getConfigCheck s u i raw
  · exact .closing rfl
  · exact .own
  · exact .own
  · next h d hp c hf hm => exact ⟨⟨h, d, hp, hf⟩, Decidable.of_not_not hm⟩

theorem payloadGate_ok {s p env p'} (h : payloadGate s p env = .ok p') :
    (s.cfg.hasMod = false ∧ p' = p) ∨
      (s.cfg.hasMod = true ∧ env.down = false ∧
        ((env.verdict = .valid ∧ p' = p) ∨ (env.verdict = .altered p' ∧ p' ≠ []))) := by
  revert h
  fun_cases payloadGate s p env <;> intro h <;> cases h
  · next hm hdn hv => exact Or.inr ⟨hm, by simpa using hdn, Or.inl ⟨hv, rfl⟩⟩
  · next hm hdn hv hne => exact Or.inr ⟨hm, by simpa using hdn, Or.inr ⟨hv, fun h0 => by simp [h0] at hne⟩⟩
  · next hm => exact Or.inl ⟨by simpa using hm, rfl⟩

theorem payloadGate_nonempty {s p env p'} (h : payloadGate s p env = .ok p') (hp : p ≠ []) : p' ≠ [] := by
  rcases payloadGate_ok h with ⟨_, rfl⟩ | ⟨_, _, ⟨_, rfl⟩ | ⟨_, hne⟩⟩
  · exact hp
  · exact hp
  · exact hne

/-- a lost modulator link lets no payload through -/
theorem payloadGate_down {s p env} (hm : s.cfg.hasMod = true) (hd : env.down = true) :
    payloadGate s p env = .error .internalServerError := by
  simp [payloadGate, hm, hd]

theorem payloadGate_refuses {s p env} (hm : s.cfg.hasMod = true)
    (h : env.verdict = .invalid ∨ env.verdict = .failed ∨ env.down = true ∨ env.verdict = .altered []) :
    ∃ r, payloadGate s p env = .error r := by
  cases hg : payloadGate s p env with
  | error r => exact ⟨r, rfl⟩
  | ok p' =>
    rcases payloadGate_ok hg with ⟨hno, _⟩ | ⟨_, hd, ⟨hv, _⟩ | ⟨hv, hne⟩⟩
    · rw [hm] at hno; cases hno
    · simp [hv, hd] at h
    · simp [hv, hd, hne] at h

theorem payloadGate_error_closes {s p env r} (h : payloadGate s p env = .error r) : r.recoverable = false := by
  revert h
  fun_cases payloadGate s p env <;> intro h <;> cases h <;> rfl

/-- what an admitted BROADCAST has passed: `c` is the channel named, `p'` the payload the gate hands on -/
structure BroadcastAdmitted (s : Srv) (u raw : Str) (p : Payload) (env : Env) (c : Chan) (p' : Payload) : Prop where
  chan     : ∃ h, Id.parseChannelId raw = some (h, s.cfg.domain) ∧ findChan s.chans h = some c
  member   : u ∈ c.members
  publish  : isAllowed c.publishAcl u s.cfg.domain = true
  gate     : payloadGate s p env = .ok p'
  size     : p.length ≤ s.cfg.maxPayload
  chanSize : p'.length ≤ c.maxPayload
  nonempty : p ≠ []

theorem broadcastCheck_checked {s u i raw q p env} :
    Checked (some i) (fun (c, p') => BroadcastAdmitted s u raw p env c p') (broadcastCheck s u i raw q p env) := by
  fun_cases broadcastCheck s u i raw q p env
  · exact .closing rfl     -- what `deserialize` rejects
  · exact .own
  · exact .closing rfl
  · exact .own
  · exact .own
  · exact .own
  · exact .own
  · exact .own
  · exact .own
  · next h0 hlen h d hp p' hg hd c hf hm ha hl =>
    refine ⟨⟨h, by rw [hp, Decidable.of_not_not hd], hf⟩, Decidable.of_not_not hm, by simpa using ha, hg, Nat.not_lt.mp hlen,
      Nat.not_lt.mp hl, ?_⟩
    intro hp0; subst hp0; simp at h0

/-- the escapes are the requests stopped before the modulator is asked: by `deserialize`, the size limit, the channel name -/
theorem broadcastCheck_of_gate_error {s u i raw q p env r} (hg : payloadGate s p env = .error r) :
    broadcastCheck s u i raw q p env = .error (some i, r) ∨ p.isEmpty = true ∨ q.any (· > 1) = true ∨ i = 0 ∨
      p.length > s.cfg.maxPayload ∨ Id.parseChannelId raw = none := by
  fun_cases broadcastCheck s u i raw q p env
  · next h =>
    simp only [Bool.or_eq_true, decide_eq_true_eq] at h
    rcases h with (h | h) | h
    · exact Or.inr (Or.inr (Or.inl h))
    · exact Or.inr (Or.inl h)
    · exact Or.inr (Or.inr (Or.inr (Or.inl h)))
  · next h => exact Or.inr (Or.inr (Or.inr (Or.inr (Or.inl h))))
  · next h => exact Or.inr (Or.inr (Or.inr (Or.inr (Or.inr h))))
  · next hg' => rw [hg] at hg'; cases hg'; exact Or.inl rfl
  all_goals exact absurd ‹payloadGate s p env = .ok _› (by rw [hg]; nofun)

theorem joinMember_ok {s u c ob m} (h : joinMember s u c ob = .ok m) :
    (ob = none ∧ m = u) ∨
      (∃ od, ob = some (m, od) ∧ c.owner = some u ∧ od = s.cfg.domain ∧ connsOf s m ≠ []) := by
  revert h
  fun_cases joinMember s u c ob <;> intro h <;> cases h
  · next od ho hd hcn =>
    exact Or.inr ⟨od, rfl, by simpa using ho, by simpa using hd, by intro h0; simp [h0] at hcn⟩
  · exact Or.inl ⟨rfl, rfl⟩

theorem joinAdmit_none {s c m} (h : joinAdmit s c m = none) :
    isAllowed c.joinAcl m s.cfg.domain = true ∧ m ∉ c.members ∧ c.members.length < c.maxClients ∧
      (indexOf s m).length < s.cfg.maxSubs := by
  revert h
  fun_cases joinAdmit s c m <;> intro h <;> cases h
  next h1 h2 h3 h4 => exact ⟨by simpa using h1, h2, by omega, by omega⟩

/-- what an admitted JOIN of `m` to the channel under `h` has passed, in the order of the check; the last four are `joinAdmit` -/
structure JoinAdmitted (s : Srv) (u raw : Str) (ob : Option Str) (h m : Str) : Prop where
  chan    : Id.parseChannelId raw = some (h, s.cfg.domain)
  parsed  : ob.map Id.parseNid ≠ some none
  newChan : (findChan s.chans h).isNone = true → s.chans.length < s.cfg.maxChannels
  member  : joinMember s u (chanOrNew s h) (ob.bind Id.parseNid) = .ok m
  allowed : isAllowed (chanOrNew s h).joinAcl m s.cfg.domain = true
  fresh   : m ∉ (chanOrNew s h).members
  clients : (chanOrNew s h).members.length < (chanOrNew s h).maxClients
  subs    : (indexOf s m).length < s.cfg.maxSubs

theorem joinCheck_checked {s u i raw ob} :
    Checked (some i) (fun (h, m) => JoinAdmitted s u raw ob h m) (joinCheck s u i raw ob) := by
  fun_cases joinCheck s u i raw ob
  · exact .closing rfl
  · exact .closing rfl
  · exact .own
  · exact .own
  · exact .own
  · exact .own
  · next h d hp hob hd hcap m hjm hja =>
    obtain ⟨hal, hfr, hcl, hsu⟩ := joinAdmit_none hja
    refine ⟨by rw [hp, Decidable.of_not_not hd], hob, fun hnone => ?_, hjm, hal, hfr, hcl, hsu⟩
    simp [hnone] at hcap
    omega

theorem leaveTarget_ok {s u c ob m} (h : leaveTarget s u c ob = .ok m) :
    (ob = none ∧ m = u) ∨ (∃ od, ob = some (m, od) ∧ c.owner = some u) := by
  revert h
  fun_cases leaveTarget s u c ob <;> intro h <;> cases h
  · next od ho _ => exact Or.inr ⟨od, rfl, by simpa using ho⟩
  · exact Or.inl ⟨rfl, rfl⟩

/-- what an admitted LEAVE of `m` from `c` has passed -/
structure LeaveAdmitted (s : Srv) (u raw : Str) (ob : Option Str) (c : Chan) (m : Str) : Prop where
  chan   : ∃ h, Id.parseChannelId raw = some (h, s.cfg.domain) ∧ findChan s.chans h = some c
  parsed : ob.map Id.parseNid ≠ some none
  target : leaveTarget s u c (ob.bind Id.parseNid) = .ok m
  member : m ∈ c.members

theorem leaveCheck_checked {s u i raw ob} :
    Checked (some i) (fun (c, m) => LeaveAdmitted s u raw ob c m) (leaveCheck s u i raw ob) := by
  fun_cases leaveCheck s u i raw ob
  · exact .closing rfl
  · exact .closing rfl
  · exact .own
  · exact .own
  · exact .own
  · exact .own
  · next h d hp hob hd c hf m hlt hm =>
    exact ⟨⟨h, by rw [hp, Decidable.of_not_not hd], hf⟩, hob, hlt, Decidable.of_not_not hm⟩

theorem modDirectCheck_checked {s id p env} : Checked id (fun j => id = some j) (modDirectCheck s id p env) := by
  fun_cases modDirectCheck s id p env
  · exact ⟨Or.inl rfl, fun _ => rfl⟩
  · exact .closing rfl
  · exact .closing rfl
  · exact .closing rfl
  · exact .closing rfl
  · exact .closing rfl
  · exact .own
  · rfl

end Narwhal.Server
