import Narwhal.Lemmas.Cleanup
/-!
# The per-channel part of the invariant

Of the four clauses of `ChanOK`, the first (cache coherence) is what C01's confinement over histories rests on; the second and third
are C05's "no empty channel" and C04's "one owner, who is a member"; the fourth (no member twice) is kept up and read by nothing yet.
-/
namespace Narwhal.Server
open Narwhal.Acl (isAllowed)

def ChanOK (dom : Str) (c : Chan) : Prop :=
  c.targets = c.members.filter (fun m => isAllowed c.readAcl m dom) ∧
  c.members ≠ [] ∧ (∃ o, c.owner = some o ∧ o ∈ c.members) ∧ c.members.Nodup

def ChansOK (s : Srv) : Prop := ∀ h c, findChan s.chans h = some c → c.handler = h ∧ ChanOK s.cfg.domain c

theorem rebuild_members (dom : Str) (c : Chan) : (rebuild dom c).members = c.members := rfl
theorem rebuild_owner (dom : Str) (c : Chan) : (rebuild dom c).owner = c.owner := rfl
theorem rebuild_handler (dom : Str) (c : Chan) : (rebuild dom c).handler = c.handler := rfl

theorem rebuild_cache (dom : Str) (c : Chan) :
    (rebuild dom c).targets = (rebuild dom c).members.filter (fun m => isAllowed (rebuild dom c).readAcl m dom) := rfl

theorem withMember_members (dom : Str) (c : Chan) (m : Str) : (withMember dom c m).members = c.members ++ [m] := rfl
theorem withMember_owner (dom : Str) (c : Chan) (m : Str) :
    (withMember dom c m).owner = if c.owner.isNone then some m else c.owner := rfl
theorem withMember_maxClients (dom : Str) (c : Chan) (m : Str) : (withMember dom c m).maxClients = c.maxClients := rfl
theorem withMember_handler (dom : Str) (c : Chan) (m : Str) : (withMember dom c m).handler = c.handler := rfl

/-- the second alternative of `hc` is the channel a JOIN is about to create (`newChan`, through `chanOrNew`) -/
theorem withMember_ok (dom : Str) (c : Chan) (m : Str) (hm : m ∉ c.members)
    (hc : ChanOK dom c ∨ (c.members = [] ∧ c.owner = none)) : ChanOK dom (withMember dom c m) := by
  refine ⟨rebuild_cache _ _, ?_, ?_, ?_⟩
  · simp [withMember_members]
  · rw [withMember_members, withMember_owner]
    rcases hc with ⟨_, _, ⟨o, ho, hom⟩, _⟩ | ⟨_, hnone⟩
    · exact ⟨o, by simp [ho], by simp [hom]⟩
    · exact ⟨m, by simp [hnone], by simp⟩
  · rw [withMember_members]
    rcases hc with ⟨_, _, _, hnd⟩ | ⟨hnil, _⟩
    · exact List.nodup_append.mpr ⟨hnd, by simp, by intro a ha b hb; simp at hb; subst hb; exact fun h => hm (h ▸ ha)⟩
    · simp [hnil]

theorem pickOwner_mem (env : Env) (c1 : Chan) (u : Str) (hne : c1.members ≠ []) : pickOwner env c1 u ∈ c1.members := by
  unfold pickOwner
  have hhead : c1.members.headD u ∈ c1.members := by
    cases hm : c1.members with
    | nil => exact absurd hm hne
    | cons a as => simp
  split
  · split
    · assumption
    · exact hhead
  · exact hhead

theorem afterRemoval_ok (dom : Str) (env : Env) (c : Chan) (u : Str) (hc : ChanOK dom c)
    (hne : (withoutMember dom c u).members ≠ []) : ChanOK dom (afterRemoval dom env c u) := by
  obtain ⟨_, _, ⟨o, ho, hom⟩, hnd⟩ := hc
  have hnd' : (withoutMember dom c u).members.Nodup := hnd.filter _
  unfold afterRemoval
  split
  · exact ⟨rebuild_cache _ _, hne, ⟨_, rfl, pickOwner_mem env _ u hne⟩, hnd'⟩
  · next hnu =>
    have hou : o ≠ u := fun e => hnu (e ▸ ho)
    refine ⟨rebuild_cache _ _, hne, ⟨o, ?_, ?_⟩, hnd'⟩
    · show (if c.owner = some u then none else c.owner) = some o
      rw [if_neg hnu, ho]
    · exact List.mem_filter.mpr ⟨hom, by simpa using hou⟩

theorem setAcl_handler (dom : Str) (c : Chan) (ty : AclType) (a : Acl.Acl) :
    (rebuild dom (setAclOf c ty a)).handler = c.handler := by cases ty <;> rfl

theorem setAcl_members (dom : Str) (c : Chan) (ty : AclType) (a : Acl.Acl) :
    (rebuild dom (setAclOf c ty a)).members = c.members := by cases ty <;> rfl

theorem setAcl_ok {dom : Str} {c : Chan} {ty : AclType} {a : Acl.Acl} (hc : ChanOK dom c) :
    ChanOK dom (rebuild dom (setAclOf c ty a)) := by
  obtain ⟨_, hne, ho, hnd⟩ := hc
  refine ⟨rebuild_cache _ _, ?_, ?_, ?_⟩ <;> cases ty <;> simpa [rebuild_members, rebuild_owner, setAclOf]

-- `mergeConfig` leaves `targets`, `members`, `readAcl` and `owner`, all that `ChanOK` reads, as they are
theorem mergeConfig_ok {dom : Str} {c : Chan} {mc mp : Nat} (hc : ChanOK dom c) : ChanOK dom (mergeConfig c mc mp) := hc

theorem ChansOK_put {s s' : Srv} {c : Chan} (hs : ChansOK s) (hc : ChanOK s.cfg.domain c)
    (hcfg : s'.cfg = s.cfg) (hch : s'.chans = putChan s.chans c) : ChansOK s' := by
  intro h c' hf
  rw [hcfg]
  rw [hch, findChan_putChan] at hf
  split at hf
  · next heq => cases hf; exact ⟨heq, hc⟩
  · exact hs h c' hf

theorem ChansOK_del {s s' : Srv} {h0 : Str} (hs : ChansOK s)
    (hcfg : s'.cfg = s.cfg) (hch : s'.chans = delChan s.chans h0) : ChansOK s' := by
  intro h c' hf
  rw [hcfg]
  rw [hch, findChan_delChan] at hf
  split at hf
  · cases hf
  · exact hs h c' hf

theorem ChansOK_same {s s' : Srv} (hs : ChansOK s) (hcfg : s'.cfg = s.cfg) (hch : s'.chans = s.chans) :
    ChansOK s' := by
  intro h c hf; rw [hcfg]; rw [hch] at hf; exact hs h c hf

theorem ChansOK.find_handler {s : Srv} (hs : ChansOK s) {h : Str} {c : Chan} (hf : findChan s.chans h = some c) :
    findChan s.chans c.handler = some c := by
  rw [(hs h c hf).1]; exact hf

theorem removeMember_ChansOK (s : Srv) (c : Chan) (u : Str) (env : Env) (hs : ChansOK s)
    (hc : ChanOK s.cfg.domain c) : ChansOK (removeMember s c u env).1 := by
  rw [removeMember_fst]
  split
  · exact ChansOK_del hs rfl rfl
  · next hne => exact ChansOK_put hs (afterRemoval_ok _ env c u hc (fun h => hne (List.isEmpty_iff.mpr h))) rfl rfl

theorem chanOrNew_ok (s : Srv) (hs : ChansOK s) (h : Str) :
    (chanOrNew s h).handler = h ∧
      (ChanOK s.cfg.domain (chanOrNew s h) ∨ ((chanOrNew s h).members = [] ∧ (chanOrNew s h).owner = none)) := by
  unfold chanOrNew
  cases hf : findChan s.chans h with
  | none => exact ⟨rfl, Or.inr ⟨rfl, rfl⟩⟩
  | some c => exact ⟨(hs h c hf).1, Or.inl (hs h c hf).2⟩

end Narwhal.Server
