import Narwhal.Lemmas.CodecValues
/-!
# Codec, parameter level

The decoder's parameter loop is used through two equations, one for each kind of round: a round that reads a value of the current
parameter (`readParams_value`) and a round that starts a new parameter, which keeps the fuel (`readParams_param`).  The encoder is
used by inversion: from `enc… = .ok e` the shape of `e`.
-/
namespace Narwhal.Codec

theorem readParameter_cases (s : Bytes) :
    readParameter s = .error .malformed ∨ ∃ nm c r, c ≠ 0 ∧ readParameter s = .ok (nm, c, r) := by
  generalize h : readParameter s = res
  unfold readParameter at h
  split at h
  · exact .inl h.symm
  split at h
  · split at h
    · exact .inr ⟨_, 1, _, by decide, h.symm⟩
    · exact .inl h.symm
  split at h
  · exact .inl h.symm
  split at h
  · exact .inl h.symm
  · exact .inl h.symm
  next hne _ =>
  split at h
  · exact .inr ⟨_, _, _, hne, h.symm⟩
  · exact .inl h.symm

theorem readParams_value (n : Nat) (s nm : Bytes) (c : Nat) :
    readParams (n + 1) s (some (nm, c)) =
      match readEscaped s with
      | some (some (v, s3)) =>
        if c = 0 then .error .panic
        else match readParams n s3 (if c - 1 = 0 then none else some (nm, c - 1)) with
          | .ok ps => .ok ((nm, v) :: ps)
          | .error e => .error e
      | _ => .error .malformed := by
  rw [readParams]
  rcases readEscaped s with _ | _ | ⟨v, s3⟩ <;> rfl

theorem readParams_param {n : Nat} (hn : n ≠ 0) (s : Bytes) :
    readParams n s none =
      match seekChar s with
      | none => .ok []
      | some s1 =>
        match readParameter s1 with
        | .ok (nm, c, s2) => readParams n s2 (some (nm, c))
        | .error e => .error e := by
  obtain ⟨n, rfl⟩ := Nat.exists_eq_succ_of_ne_zero hn
  rcases hs : seekChar s with _ | s1
  · simp [readParams, hs]
  · rcases hp : readParameter s1 with e | ⟨nm, c, s2⟩ <;> simp [readParams, hs, hp]

theorem splitAt_eq (p : Nat → Bool) (a : Bytes) (b : Nat) (rest : Bytes) (ha : ∀ x ∈ a, p x = false) (hb : p b = true) :
    splitAt p (a ++ b :: rest) = some (a, rest) := by
  induction a with
  | nil => simp [splitAt, hb]
  | cons x a ih => simp [splitAt, ha x (by simp), ih (fun y hy => ha y (by simp [hy]))]

theorem splitAt_none (p : Nat → Bool) (a : Bytes) (ha : ∀ x ∈ a, p x = false) : splitAt p a = none := by
  induction a with
  | nil => rfl
  | cons x a ih => simp [splitAt, ha x (by simp), ih (fun y hy => ha y (by simp [hy]))]

/-- the bytes of a parameter name: none of them is a delimiter of the line syntax -/
theorem optionName_byte {x : Nat} (h : isOptionNameByte x = true) :
    x ≠ 61 ∧ x ≠ 58 ∧ x ≠ 10 ∧ x ≠ 0 ∧ isSpace x = false := by
  rw [isSpace_eq_false]
  simp only [isOptionNameByte, isAlnumAscii, Bool.or_eq_true, Bool.and_eq_true, decide_eq_true_eq] at h
  omega

theorem encSlice_cons_cons {x y : Scalar} {r : List Scalar} {e : Bytes} (he : encSlice (x :: y :: r) = .ok e) :
    ∃ a b, encScalar x = .ok a ∧ encSlice (y :: r) = .ok b ∧ e = a ++ 32 :: b := by
  simp only [encSlice] at he
  split at he <;> cases he
  rename_i a b ha hb
  exact ⟨a, b, ha, hb, by simp⟩

theorem encField_ok {f : Field} {v : FVal} {e : Bytes} (he : encField f v = .ok e) :
    scalarsOf v = [] ∧ e = [] ∨
    scalarsOf v ≠ [] ∧ ∃ cnt a, (cnt = [] ∧ (scalarsOf v).length = 1 ∨ cnt = 58 :: digits (scalarsOf v).length) ∧
      encSlice (scalarsOf v) = .ok a ∧ e = 32 :: f.name ++ cnt ++ 61 :: a := by
  rcases v with x | (_ | x) | (_ | ⟨x, r⟩) <;> simp only [encField] at he
  · split at he <;> cases he
    rename_i a ha
    exact .inr ⟨by simp [scalarsOf], [], a, .inl ⟨rfl, rfl⟩, ha, by simp⟩
  · cases he; exact .inl ⟨rfl, rfl⟩
  · split at he <;> cases he
    rename_i a ha
    exact .inr ⟨by simp [scalarsOf], [], a, .inl ⟨rfl, rfl⟩, ha, by simp⟩
  · cases he; exact .inl ⟨rfl, rfl⟩
  · split at he <;> cases he
    rename_i a ha
    exact .inr ⟨by simp [scalarsOf], _, a, .inr rfl, ha, by simp [scalarsOf]⟩

theorem encFields_cons {f : Field} {v : FVal} {rest : List (Field × FVal)} {e : Bytes}
    (he : encFields ((f, v) :: rest) = .ok e) :
    ∃ a b, encField f v = .ok a ∧ encFields rest = .ok b ∧ e = a ++ b := by
  simp only [encFields] at he
  split at he <;> cases he
  rename_i a b ha hb
  exact ⟨a, b, ha, hb, rfl⟩

theorem encode_ok {S : Schema} {cap : Nat} {m : Msg} {l : Bytes} (h : encode S cap m = .ok l) :
    ∃ spec ps, S[m.kind]? = some spec ∧ validate spec m.vals = true ∧
      encFields (canonical (spec.fields.zip m.vals)) = .ok ps ∧ l = spec.wire ++ ps ++ [10] := by
  unfold encode at h
  split at h
  · cases h
  next spec hspec =>
  split at h
  · cases h
  next hval =>
  split at h
  · cases h
  next ps hps =>
  simp only at h
  split at h <;> cases h
  exact ⟨spec, ps, hspec, by simpa using hval, hps, rfl⟩

theorem insertByName_perm (x : Field × FVal) (l : List (Field × FVal)) : (insertByName x l).Perm (x :: l) := by
  induction l with
  | nil => simp [insertByName]
  | cons y ys ih =>
    simp only [insertByName]
    split
    · exact List.Perm.refl _
    · exact (List.Perm.cons y ih).trans (List.Perm.swap x y ys)

theorem foldr_insertByName_perm (l : List (Field × FVal)) : (l.foldr insertByName []).Perm l := by
  induction l with
  | nil => simp
  | cons x xs ih => exact (insertByName_perm x _).trans (List.Perm.cons x ih)

theorem canonical_subset (Z : List (Field × FVal)) : canonical Z ⊆ Z := by
  intro p hp
  rcases List.mem_append.mp hp with h | h
  · exact (List.mem_filter.mp (List.mem_of_mem_take h)).1
  · exact (List.mem_filter.mp ((foldr_insertByName_perm _).subset h)).1

/-- what `SchemaOK` asks of a parameter name -/
def NameOK (f : Field) : Prop := f.name ≠ [] ∧ ∀ x ∈ f.name, isOptionNameByte x = true

theorem encSlice_no_lf {vs : List Scalar} {e : Bytes} (he : encSlice vs = .ok e) : 10 ∉ e := by
  induction vs generalizing e with
  | nil => cases he; simp
  | cons x r ih =>
    cases r with
    | nil => exact encScalar_no_lf he
    | cons y r =>
      obtain ⟨a, b, ha, hb, rfl⟩ := encSlice_cons_cons he
      simp [encScalar_no_lf ha, ih hb]

theorem encField_no_lf {f : Field} {v : FVal} {e : Bytes} (hn : NameOK f) (he : encField f v = .ok e) : 10 ∉ e := by
  have hname : 10 ∉ f.name := fun h => (optionName_byte (hn.2 10 h)).2.2.1 rfl
  obtain ⟨_, rfl⟩ | ⟨_, cnt, a, hcnt, ha, rfl⟩ := encField_ok he
  · simp
  · have : 10 ∉ cnt := by
      rcases hcnt with ⟨rfl, _⟩ | rfl
      · simp
      · intro h
        rcases List.mem_cons.mp h with h | h
        · cases h
        · have := (digits_spec _).2.1 10 h; omega
    simp [hname, this, encSlice_no_lf ha]

theorem encFields_no_lf {fvs : List (Field × FVal)} {e : Bytes} (hn : ∀ p ∈ fvs, NameOK p.1)
    (he : encFields fvs = .ok e) : 10 ∉ e := by
  induction fvs generalizing e with
  | nil => cases he; simp
  | cons p rest ih =>
    obtain ⟨a, b, ha, hb, rfl⟩ := encFields_cons he
    simp [encField_no_lf (hn p (by simp)) ha, ih (fun p hp => hn p (by simp [hp])) hb]

end Narwhal.Codec
