import Narwhal.Lemmas.Checks
/-!
# The shape of the disconnect clean-up

Whatever is proved about the end of a connection, hence about every refusal that closes one, goes through the statements of this
file: nothing outside it unfolds `removeMember`, `leaveAll`, `dropConn` or `dropAuthed`.
-/
namespace Narwhal.Server

/-- what remains of `c` when `u` leaves and somebody stays -/
def afterRemoval (dom : Str) (env : Env) (c : Chan) (u : Str) : Chan :=
  if c.owner = some u then { withoutMember dom c u with owner := some (pickOwner env (withoutMember dom c u) u) }
  else withoutMember dom c u

theorem withoutMember_members (dom : Str) (c : Chan) (u : Str) :
    (withoutMember dom c u).members = c.members.filter (· ≠ u) := rfl

theorem withoutMember_handler (dom : Str) (c : Chan) (u : Str) : (withoutMember dom c u).handler = c.handler := rfl

theorem afterRemoval_handler (dom : Str) (env : Env) (c : Chan) (u : Str) :
    (afterRemoval dom env c u).handler = c.handler := by
  unfold afterRemoval; split <;> rfl

theorem afterRemoval_members (dom : Str) (env : Env) (c : Chan) (u : Str) :
    (afterRemoval dom env c u).members = c.members.filter (· ≠ u) := by
  unfold afterRemoval; split <;> rfl

theorem removeMember_fst (s : Srv) (c : Chan) (u : Str) (env : Env) :
    (removeMember s c u env).1 =
      { s with index := indexDel s u c.handler,
               chans := if (withoutMember s.cfg.domain c u).members.isEmpty then delChan s.chans c.handler
                        else putChan s.chans (afterRemoval s.cfg.domain env c u) } := by
  unfold afterRemoval
  fun_cases removeMember s c u env
  · next h => rw [if_pos h]
  · next h ho _ => rw [if_neg h, if_pos ho]
  · next h ho _ => rw [if_neg h, if_pos ho]
  · next h ho => rw [if_neg h, if_neg ho]

theorem removeMember_events (s : Srv) (c : Chan) (u : Str) (env : Env) :
    (removeMember s c u env).2.1 =
      if (withoutMember s.cfg.domain c u).members.isEmpty = false ∧ c.owner = some u ∧ handoverFails s env = false then
        handoverEvents s (afterRemoval s.cfg.domain env c u) (pickOwner env (withoutMember s.cfg.domain c u) u)
      else [] := by
  unfold afterRemoval
  fun_cases removeMember s c u env
  · next h => exact (if_neg fun hh => by rw [h] at hh; cases hh.1).symm
  · next h ho hf => exact (if_neg fun hh => by rw [hf] at hh; cases hh.2.2).symm
  · next h ho hf => rw [if_pos ⟨by simpa using h, ho, by simpa using hf⟩, if_pos ho]
  · next h ho => exact (if_neg fun hh => ho hh.2.1).symm

theorem removeMember_flag (s : Srv) (c : Chan) (u : Str) (env : Env) :
    (removeMember s c u env).2.2 = false ↔
      (withoutMember s.cfg.domain c u).members.isEmpty = false ∧ c.owner = some u ∧ handoverFails s env = true := by
  fun_cases removeMember s c u env
  · next h => exact ⟨nofun, fun hh => by rw [h] at hh; cases hh.1⟩
  · next h ho hf => exact ⟨fun _ => ⟨by simpa using h, ho, hf⟩, fun _ => rfl⟩
  · next h ho hf => exact ⟨nofun, fun hh => absurd hh.2.2 hf⟩
  · next h ho => exact ⟨nofun, fun hh => absurd hh.2.1 ho⟩

theorem removeMember_plain (s : Srv) (c : Chan) (u : Str) (env : Env) :
    ∀ e ∈ (removeMember s c u env).2.1, e.plainEvent := by
  rw [removeMember_events]
  split
  · exact routeTo_event_plain
  · exact fun _ h => nomatch h

/-- the motive sees the channels still to be visited -/
theorem leaveAll_induct {u : Str} {env : Env} {motive : List Str → Srv × List Emit → Prop} {s : Srv}
    (start : motive (indexOf s u) ({ s with index := eraseA s.index u }, []))
    (skip : ∀ h rest acc, motive (h :: rest) acc → (∀ c, findChan acc.1.chans h = some c → u ∉ c.members) → motive rest acc)
    (remove : ∀ h rest acc c, motive (h :: rest) acc → findChan acc.1.chans h = some c → u ∈ c.members →
      motive rest ((removeMember acc.1 c u env).1,
        acc.2 ++ (if notifyFails acc.1 env then [] else leftEvents acc.1 c u none) ++ (removeMember acc.1 c u env).2.1)) :
    motive [] (leaveAll s u env) := by
  unfold leaveAll
  generalize indexOf s u = hs at start
  generalize (({ s with index := eraseA s.index u }, []) : Srv × List Emit) = acc at start
  induction hs generalizing acc with
  | nil => exact start
  | cons h rest ih =>
    apply ih
    fun_cases leaveOne u env acc h
    · next hf => exact skip h rest acc start (fun c hc => by rw [hf] at hc; cases hc)
    · next c hf hm => exact remove h rest acc c start hf hm
    · next c hf hm => exact skip h rest acc start (fun c' hc => by rw [hf] at hc; cases hc; exact hm)

theorem leaveAll_frame {α} (f : Srv → α) (hf : ∀ s ix ch, f { s with index := ix, chans := ch } = f s) (s : Srv) (u : Str)
    (env : Env) : f (leaveAll s u env).1 = f s := by
  refine leaveAll_induct (motive := fun _ acc => f acc.1 = f s) (hf s _ _) (fun _ _ _ h _ => h) ?_
  intro h rest acc c ih _ _
  rw [removeMember_fst, hf]; exact ih

/-- the user's entry is erased before the loop, so the `indexDel` of each removal finds nothing to change -/
theorem leaveAll_index (s : Srv) (u : Str) (env : Env) : (leaveAll s u env).1.index = eraseA s.index u := by
  refine leaveAll_induct (motive := fun _ acc => acc.1.index = eraseA s.index u) rfl (fun _ _ _ h _ => h) ?_
  intro h rest acc c ih _ _
  rw [removeMember_fst]
  exact (indexDel_absent (by rw [ih, lookupA_eraseA, if_pos rfl])).trans ih

theorem leaveAll_plain (s : Srv) (u : Str) (env : Env) : ∀ e ∈ (leaveAll s u env).2, e.plainEvent := by
  refine leaveAll_induct (motive := fun _ acc => ∀ e ∈ acc.2, e.plainEvent) (fun _ h => nomatch h) (fun _ _ _ h _ => h) ?_
  intro h rest acc c ih _ _ e he
  rcases List.mem_append.mp he with he | he
  · rcases List.mem_append.mp he with he | he
    · exact ih e he
    · split at he
      · cases he
      · exact routeTo_event_plain e he
  · exact removeMember_plain _ _ _ _ e he

theorem dropConn_cases {motive : Srv × List Emit → Prop} (s : Srv) (k : Nat) (env : Env)
    (absent : phaseOf s k = none → motive (s, []))
    (preauth : ∀ p, phaseOf s k = some p → (∀ u, p ≠ .authed u) → motive (withoutConn s k, []))
    (more : ∀ u, phaseOf s k = some (.authed u) → restConns s u k ≠ [] →
      motive ({ withoutConn s k with router := setA s.router u (restConns s u k) }, []))
    (last : ∀ u, phaseOf s k = some (.authed u) → restConns s u k = [] →
      motive (leaveAll { withoutConn s k with router := eraseA s.router u } u env)) :
    motive (dropConn s k env) := by
  fun_cases dropConn s k env
  · next hf => exact absent (phaseOf_eq_none.mpr hf)
  · next c hf u hp =>
    have hk := phaseOf_eq_some.mpr ⟨c, hf, hp⟩
    fun_cases dropAuthed s k u env
    · next he => exact last u hk (List.isEmpty_iff.mp he)
    · next he => exact more u hk (fun h => he (List.isEmpty_iff.mpr h))
  · next c hf hp => exact preauth c.phase (phaseOf_eq_some.mpr ⟨c, hf, rfl⟩) hp

theorem dropConn_preauth (s : Srv) (k : Nat) (env : Env) {p : Phase} (hk : phaseOf s k = some p) (hp : ∀ u, p ≠ .authed u) :
    dropConn s k env = (withoutConn s k, []) := by
  obtain ⟨c, hc, rfl⟩ := phaseOf_eq_some.mp hk
  unfold dropConn
  simp only [hc]   -- the match on `c.phase` falls to its default branch by `hp`

theorem dropConn_last (s : Srv) (k : Nat) (env : Env) {u : Str} (hk : phaseOf s k = some (.authed u)) (hlast : restConns s u k = []) :
    dropConn s k env = leaveAll { withoutConn s k with router := eraseA s.router u } u env := by
  obtain ⟨c, hc, hp⟩ := phaseOf_eq_some.mp hk
  unfold dropConn dropAuthed
  simp only [hc, hp, hlast, List.isEmpty_nil, if_true]

theorem dropConn_cfg (s : Srv) (k : Nat) (env : Env) : (dropConn s k env).1.cfg = s.cfg :=
  dropConn_cases (motive := fun out => out.1.cfg = s.cfg) s k env (fun _ => rfl) (fun _ _ _ => rfl) (fun _ _ _ => rfl)
    (fun _ _ _ => leaveAll_frame (·.cfg) (fun _ _ _ => rfl) ..)

theorem dropConn_plain (s : Srv) (k : Nat) (env : Env) : ∀ e ∈ (dropConn s k env).2, e.plainEvent :=
  dropConn_cases (motive := fun out => ∀ e ∈ out.2, e.plainEvent) s k env (fun _ _ h => nomatch h) (fun _ _ _ _ h => nomatch h)
    (fun _ _ _ _ h => nomatch h) (fun _ _ _ => leaveAll_plain _ _ _)

end Narwhal.Server
