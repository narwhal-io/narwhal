import Narwhal.Model.Micro
/-!
# The invariant of the membership operations at suspension-point granularity, step by step

A step other than the label `cleanup` is of one of three kinds: the record of a task that holds no lock is replaced by one that
holds none; a task takes, keeps or releases the lock of the object it is at; the map changes at a name whose object is empty.
A segment of a JOIN or a LEAVE does two of these in a row (create the object, then insert the first member; remove the last
member, then unmap the object), and in between a mapped channel is empty.  So the invariant `InvW s x` has one object `x` exempt
from `nonempty`: the first half of such a segment enters the exemption, the second leaves it, and `Inv = InvW · none` is what
holds between segments.
-/
namespace Narwhal.Micro

@[simp] theorem setPc_tasks (s : St) (t : Nat) (pc : Pc) (i : Nat) :
    (setPc s t pc).tasks i = if i = t then { s.tasks t with pc := pc } else s.tasks i := rfl
@[simp] theorem setPc_objs (s : St) (t : Nat) (pc : Pc) : (setPc s t pc).objs = s.objs := rfl
@[simp] theorem setPc_map (s : St) (t : Nat) (pc : Pc) : (setPc s t pc).map = s.map := rfl
@[simp] theorem setPc_index (s : St) (t : Nat) (pc : Pc) : (setPc s t pc).index = s.index := rfl
@[simp] theorem setPc_next (s : St) (t : Nat) (pc : Pc) : (setPc s t pc).next = s.next := rfl
@[simp] theorem setPc_rests (s : St) (t : Nat) (pc : Pc) : (setPc s t pc).rests = s.rests := rfl
@[simp] theorem setPc_strict (s : St) (t : Nat) (pc : Pc) : (setPc s t pc).strict = s.strict := rfl

@[simp] theorem setObj_objs (s : St) (o : Nat) (v : Obj) (i : Nat) : (setObj s o v).objs i = if i = o then v else s.objs i := rfl
@[simp] theorem setObj_tasks (s : St) (o : Nat) (v : Obj) : (setObj s o v).tasks = s.tasks := rfl
@[simp] theorem setObj_map (s : St) (o : Nat) (v : Obj) : (setObj s o v).map = s.map := rfl
@[simp] theorem setObj_index (s : St) (o : Nat) (v : Obj) : (setObj s o v).index = s.index := rfl
@[simp] theorem setObj_next (s : St) (o : Nat) (v : Obj) : (setObj s o v).next = s.next := rfl
@[simp] theorem setObj_rests (s : St) (o : Nat) (v : Obj) : (setObj s o v).rests = s.rests := rfl
@[simp] theorem setObj_strict (s : St) (o : Nat) (v : Obj) : (setObj s o v).strict = s.strict := rfl

@[simp] theorem setMap_map (s : St) (n : Name) (v : Option Nat) (i : Name) : (setMap s n v).map i = if i = n then v else s.map i := rfl
@[simp] theorem setMap_tasks (s : St) (n : Name) (v : Option Nat) : (setMap s n v).tasks = s.tasks := rfl
@[simp] theorem setMap_objs (s : St) (n : Name) (v : Option Nat) : (setMap s n v).objs = s.objs := rfl
@[simp] theorem setMap_index (s : St) (n : Name) (v : Option Nat) : (setMap s n v).index = s.index := rfl
@[simp] theorem setMap_next (s : St) (n : Name) (v : Option Nat) : (setMap s n v).next = s.next := rfl
@[simp] theorem setMap_rests (s : St) (n : Name) (v : Option Nat) : (setMap s n v).rests = s.rests := rfl
@[simp] theorem setMap_strict (s : St) (n : Name) (v : Option Nat) : (setMap s n v).strict = s.strict := rfl

@[simp] theorem setIndex_index (s : St) (u : User) (l : List Name) (i : User) : (setIndex s u l).index i = if i = u then l else s.index i := rfl
@[simp] theorem setIndex_tasks (s : St) (u : User) (l : List Name) : (setIndex s u l).tasks = s.tasks := rfl
@[simp] theorem setIndex_objs (s : St) (u : User) (l : List Name) : (setIndex s u l).objs = s.objs := rfl
@[simp] theorem setIndex_map (s : St) (u : User) (l : List Name) : (setIndex s u l).map = s.map := rfl
@[simp] theorem setIndex_next (s : St) (u : User) (l : List Name) : (setIndex s u l).next = s.next := rfl
@[simp] theorem setIndex_rests (s : St) (u : User) (l : List Name) : (setIndex s u l).rests = s.rests := rfl
@[simp] theorem setIndex_strict (s : St) (u : User) (l : List Name) : (setIndex s u l).strict = s.strict := rfl

@[simp] theorem mem_addIdx (l : List Name) (n x : Name) : x ∈ addIdx l n ↔ x = n ∨ x ∈ l := by
  unfold addIdx
  split
  · next h => exact ⟨.inr, fun hx => hx.elim (fun e => e ▸ h) id⟩
  · exact List.mem_cons
@[simp] theorem mem_delIdx (l : List Name) (n x : Name) : x ∈ delIdx l n ↔ x ∈ l ∧ x ≠ n := by
  unfold delIdx; simp

/-- task `t` is suspended holding the lock of `o` -/
def holds (s : St) (t o : Nat) : Prop :=
  (s.tasks t).pc = .jNotify o ∨ (s.tasks t).pc = .lNotify o ∨ (s.tasks t).pc = .lHandover o

/-- the object whose lock a task at `pc` holds: `holds` as a function of the pc -/
def Pc.lock? : Pc → Option Nat
  | .jNotify o | .lNotify o | .lHandover o => some o
  | _ => none

theorem holds_iff {s : St} {t o : Nat} : holds s t o ↔ (s.tasks t).pc.lock? = some o := by
  unfold holds
  cases (s.tasks t).pc <;> simp [Pc.lock?, eq_comm]

theorem holds_congr {s s' : St} {t o : Nat} (e : s'.tasks t = s.tasks t) : holds s' t o ↔ holds s t o := by
  rw [holds_iff, holds_iff, e]

def refs (pc : Pc) (o : Nat) : Prop :=
  pc = .jWait o ∨ pc = .jNotify o ∨ pc = .lWait o ∨ pc = .lNotify o ∨ pc = .lHandover o

/-- the object a task at `pc` is suspended at: `refs` as a function of the pc -/
def Pc.obj? : Pc → Option Nat
  | .jWait o | .jNotify o | .lWait o | .lNotify o | .lHandover o => some o
  | .start | .done => none

theorem refs_iff {pc : Pc} {o : Nat} : refs pc o ↔ pc.obj? = some o := by
  cases pc <;> simp [refs, Pc.obj?, eq_comm]

theorem Pc.obj?_of_lock? {pc : Pc} {o : Nat} (h : pc.lock? = some o) : pc.obj? = some o := by
  cases pc <;> first | exact h | cases h

/-- from a pc known by an equation; where `pc'` is a constructor application the second argument fills itself in -/
theorem Pc.obj?_of_eq {pc pc' : Pc} {o : Nat} (h : pc = pc') (h' : pc'.obj? = some o := by rfl) : pc.obj? = some o := h ▸ h'

theorem Pc.lock?_of_eq {pc pc' : Pc} {o : Nat} (h : pc = pc') (h' : pc'.lock? = some o := by rfl) : pc.lock? = some o := h ▸ h'

/-- `u` is still a member of `n` (object `o`) only because a clean-up has not got to it yet -/
def debt (s : St) (u : User) (n : Name) (o : Nat) : Prop :=
  (∃ p ∈ s.rests, p.1 = u ∧ n ∈ p.2) ∨
  (∃ t, (s.tasks t).kind = .leave false ∧ (s.tasks t).m = u ∧ (s.tasks t).n = n ∧
        ((s.tasks t).pc = .start ∨ (s.tasks t).pc = .lWait o ∨ (s.tasks t).pc = .lNotify o))

/-- the record of a clean-up LEAVE that has yet to take `u` out of channel `n`, object `o`: the second way of being in `debt` -/
structure Owes (tk : Task) (u : User) (n : Name) (o : Nat) : Prop where
  kind : tk.kind = .leave false
  user : tk.m = u
  chan : tk.n = n
  pc   : tk.pc = .start ∨ tk.pc = .lWait o ∨ tk.pc = .lNotify o

theorem debt_iff {s : St} {u : User} {n : Name} {o : Nat} :
    debt s u n o ↔ (∃ p ∈ s.rests, p.1 = u ∧ n ∈ p.2) ∨ ∃ t, Owes (s.tasks t) u n o :=
  or_congr Iff.rfl (exists_congr fun _ => ⟨fun ⟨a, b, c, d⟩ => ⟨a, b, c, d⟩, fun ⟨a, b, c, d⟩ => ⟨a, b, c, d⟩⟩)

/-- The invariant, with the object `x`, if any, exempt from `nonempty`.  Objects, map entries and pcs refer below `next`
    (`fresh_*`); a mapped object, and the object a task is at, bears the channel's name (`named`, `pc_named`); lock and pc agree
    (`holder_pc`, `pc_holder`); no mapped channel is empty and a removed object is (`nonempty`, `stale_empty`); the user of a JOIN
    that has written, and of a LEAVE that has not yet removed, is a member, and only a JOIN waits as one (`jn_member`,
    `ln_member`, `jwait_join`); the two views agree up to the `debt` of running clean-ups (`idx_mem`, `mem_idx`). -/
structure InvW (s : St) (x : Option Nat) : Prop where
  fresh_map : ∀ n o, s.map n = some o → o < s.next
  fresh_obj : ∀ o, s.next ≤ o → (s.objs o).members = [] ∧ (s.objs o).holder = none
  fresh_pc  : ∀ t o, refs (s.tasks t).pc o → o < s.next
  named     : ∀ n o, s.map n = some o → (s.objs o).name = n
  pc_named  : ∀ t o, refs (s.tasks t).pc o → (s.objs o).name = (s.tasks t).n
  holder_pc : ∀ o t, (s.objs o).holder = some t → holds s t o
  pc_holder : ∀ t o, holds s t o → (s.objs o).holder = some t
  nonempty  : ∀ n o, s.map n = some o → some o ≠ x → (s.objs o).members ≠ []
  stale_empty : ∀ o, (s.objs o).members ≠ [] → s.map (s.objs o).name = some o
  jn_member : ∀ t o, (s.tasks t).pc = .jNotify o → (s.tasks t).m ∈ (s.objs o).members
  ln_member : ∀ t o, (s.tasks t).pc = .lNotify o → (s.tasks t).m ∈ (s.objs o).members
  idx_mem   : ∀ u n, n ∈ s.index u → ∃ o, s.map n = some o ∧ u ∈ (s.objs o).members
  mem_idx   : ∀ n o u, s.map n = some o → u ∈ (s.objs o).members → n ∈ s.index u ∨ debt s u n o
  jwait_join : ∀ t o, (s.tasks t).pc = .jWait o → (s.tasks t).kind = .join

abbrev Inv (s : St) : Prop := InvW s none

theorem holds.obj? {s : St} {t o : Nat} (h : holds s t o) : (s.tasks t).pc.obj? = some o := Pc.obj?_of_lock? (holds_iff.mp h)

theorem holds.of_eq {s : St} {t o : Nat} {pc : Pc} (h : (s.tasks t).pc = pc) (h' : pc.lock? = some o := by rfl) : holds s t o :=
  holds_iff.mpr (Pc.lock?_of_eq h h')

theorem unlocked {s : St} {t : Nat} {pc : Pc} (h : (s.tasks t).pc = pc) (hpc : pc.lock? = none := by rfl) (o : Nat) :
    ¬ holds s t o := fun hh => nomatch hpc.symm.trans (h ▸ holds_iff.mp hh : pc.lock? = some o)

/-- what task `i` with record `tk`, suspended at object `o`, relies on in that object's record `ob` -/
structure Sees (i : Nat) (tk : Task) (o : Nat) (ob : Obj) : Prop where
  name   : ob.name = tk.n
  holder : tk.pc.lock? = some o → ob.holder = some i
  member : tk.pc = .jNotify o ∨ tk.pc = .lNotify o → tk.m ∈ ob.members
  join   : tk.pc = .jWait o → tk.kind = .join

theorem InvW.sees {s : St} {x : Option Nat} (h : InvW s x) {i o : Nat} (hr : (s.tasks i).pc.obj? = some o) :
    o < s.next ∧ Sees i (s.tasks i) o (s.objs o) :=
  ⟨h.fresh_pc i o (refs_iff.mpr hr), h.pc_named i o (refs_iff.mpr hr), fun hl => h.pc_holder i o (holds_iff.mpr hl),
    fun hp => hp.elim (h.jn_member i o) (h.ln_member i o), h.jwait_join i o⟩

theorem InvW.of_sees {s : St} {x : Option Nat}
    (sees : ∀ i o, (s.tasks i).pc.obj? = some o → o < s.next ∧ Sees i (s.tasks i) o (s.objs o))
    (fresh_map : ∀ n o, s.map n = some o → o < s.next)
    (fresh_obj : ∀ o, s.next ≤ o → (s.objs o).members = [] ∧ (s.objs o).holder = none)
    (named : ∀ n o, s.map n = some o → (s.objs o).name = n)
    (holder_pc : ∀ o t, (s.objs o).holder = some t → holds s t o)
    (nonempty : ∀ n o, s.map n = some o → some o ≠ x → (s.objs o).members ≠ [])
    (stale_empty : ∀ o, (s.objs o).members ≠ [] → s.map (s.objs o).name = some o)
    (idx_mem : ∀ u n, n ∈ s.index u → ∃ o, s.map n = some o ∧ u ∈ (s.objs o).members)
    (mem_idx : ∀ n o u, s.map n = some o → u ∈ (s.objs o).members → n ∈ s.index u ∨ debt s u n o) : InvW s x :=
  { fresh_map, fresh_obj, named, holder_pc, nonempty, stale_empty, idx_mem, mem_idx
    fresh_pc := fun i o hr => (sees i o (refs_iff.mp hr)).1
    pc_named := fun i o hr => (sees i o (refs_iff.mp hr)).2.name
    pc_holder := fun i o hh => (sees i o hh.obj?).2.holder (holds_iff.mp hh)
    jn_member := fun i o hp => (sees i o (Pc.obj?_of_eq hp)).2.member (.inl hp)
    ln_member := fun i o hp => (sees i o (Pc.obj?_of_eq hp)).2.member (.inr hp)
    jwait_join := fun i o hp => (sees i o (Pc.obj?_of_eq hp)).2.join hp }

theorem Owes.not_done {tk : Task} {u : User} {n : Name} {o : Nat} (h : Owes tk u n o) : tk.pc ≠ .done := fun hd => by
  rcases h.pc with h | h | h <;> exact nomatch hd.symm.trans h

theorem debt.keep {s s' : St} {u : User} {n : Name} {o t : Nat} {tk' : Task} (hd : debt s u n o) (hrests : s'.rests = s.rests)
    (htasks : ∀ i, s'.tasks i = if i = t then tk' else s.tasks i) (hself : Owes (s.tasks t) u n o → Owes tk' u n o) :
    debt s' u n o := by
  rcases debt_iff.mp hd with hp | ⟨i, ow⟩
  · exact .inl (hrests ▸ hp)
  · refine debt_iff.mpr (.inr ⟨i, ?_⟩)
    rw [htasks]
    split
    · next e => exact hself (e ▸ ow)
    · exact ow

/-- `o` is the object task `t` is at: the one its channel is mapped to, when it starts; the one it is suspended at -/
def At (s : St) (t o : Nat) : Prop :=
  (s.tasks t).pc = .start ∧ s.map (s.tasks t).n = some o ∨ (s.tasks t).pc.obj? = some o

theorem At.unique {s : St} {t o o' : Nat} (h : At s t o) (h' : At s t o') : o' = o := by
  rcases h with ⟨hs, hm⟩ | hr <;> rcases h' with ⟨hs', hm'⟩ | hr'
  · exact Option.some.inj (hm'.symm.trans hm)
  · rw [hs] at hr'; cases hr'
  · rw [hs'] at hr; cases hr
  · exact Option.some.inj (hr'.symm.trans hr)

theorem Owes.at {s : St} {t o : Nat} {u : User} {n : Name} (h : Owes (s.tasks t) u n o) (hm : s.map n = some o) : At s t o :=
  h.pc.elim (fun hs => .inl ⟨hs, h.chan ▸ hm⟩) fun hp => .inr (hp.elim (Pc.obj?_of_eq ·) (Pc.obj?_of_eq ·))

theorem inv_init (b : Bool) : Inv (init b) :=
  .of_sees nofun nofun (fun _ _ => ⟨rfl, rfl⟩) nofun nofun nofun (fun _ hne => absurd rfl hne)
    nofun nofun

/-- the first kind of step.  `hdebt`: what the task may have owed as a clean-up LEAVE is still owed by somebody, or void. -/
theorem inv_retask {s : St} {x : Option Nat} (h : InvW s x) (t : Nat) (tk' : Task) (r' : List (User × List Name))
    (hnh : ∀ o, ¬ holds s t o) (hsees : ∀ o, tk'.pc.obj? = some o → o < s.next ∧ Sees t tk' o (s.objs o))
    (hdebt : ∀ n o u, s.map n = some o → u ∈ (s.objs o).members → debt s u n o →
      debt { s with rests := r', tasks := fun i => if i = t then tk' else s.tasks i } u n o) :
    InvW { s with rests := r', tasks := fun i => if i = t then tk' else s.tasks i } x := by
  refine .of_sees (fun i o hr => ?_) h.fresh_map h.fresh_obj h.named (fun o i hh => ?_) h.nonempty h.stale_empty h.idx_mem
    (fun n o u hm hu => (h.mem_idx n o u hm hu).imp id (hdebt n o u hm hu))
  · have hr : (if i = t then tk' else s.tasks i).pc.obj? = some o := hr
    show o < s.next ∧ Sees i (if i = t then tk' else s.tasks i) o (s.objs o)
    by_cases hi : i = t
    · rw [if_pos hi] at hr ⊢
      exact hi ▸ hsees o hr
    · rw [if_neg hi] at hr ⊢
      exact h.sees hr
  · have := h.holder_pc o i hh
    have hi : i ≠ t := fun e => hnh o (e ▸ this)
    exact (holds_congr (if_neg hi)).mpr this

/-- `hvoid`: a clean-up LEAVE ends only when its user is no member of its channel's object, so what it owed is void -/
theorem inv_finish {s : St} {x : Option Nat} (h : InvW s x) (t : Nat) (hnh : ∀ o, ¬ holds s t o)
    (hvoid : (s.tasks t).kind = .leave false → ∀ o, At s t o → s.map (s.tasks t).n = some o → (s.tasks t).m ∉ (s.objs o).members) :
    InvW (setPc s t .done) x :=
  inv_retask h t _ s.rests hnh nofun fun _ o _ hm hu hdb =>
    hdb.keep rfl (fun _ => rfl) fun ow => absurd (ow.user ▸ hu) (hvoid ow.kind o (ow.at hm) (ow.chan ▸ hm))

theorem inv_wait {s : St} {x : Option Nat} (h : InvW s x) (t o : Nat) (pc' : Pc) (hstart : (s.tasks t).pc = .start)
    (hm : s.map (s.tasks t).n = some o)
    (hpc' : pc' = .jWait o ∧ (s.tasks t).kind = .join ∨ pc' = .lWait o ∧ ∃ b, (s.tasks t).kind = .leave b) :
    InvW (setPc s t pc') x := by
  -- the task waits: it is at `o`, holds no lock and, if it waits as a JOIN, is one
  have hw : pc'.obj? = some o ∧ pc'.lock? = none ∧ (pc' = .jWait o → (s.tasks t).kind = .join) := by
    rcases hpc' with ⟨rfl, hk⟩ | ⟨rfl, _⟩
    · exact ⟨rfl, rfl, fun _ => hk⟩
    · exact ⟨rfl, rfl, nofun⟩
  refine inv_retask h t _ s.rests (unlocked hstart) (fun o' hr => ?_) fun n o' u hmo _ hdb =>
    hdb.keep rfl (fun _ => rfl) fun ow => ⟨ow.kind, ow.user, ow.chan, ?_⟩
  · cases Option.some.inj (hw.1.symm.trans hr)
    exact ⟨h.fresh_map _ _ hm, h.named _ _ hm, fun hl => (nomatch hw.2.1.symm.trans hl),
      fun hp => (nomatch hw.2.1.symm.trans (hp.elim (Pc.lock?_of_eq ·) (Pc.lock?_of_eq ·))), hw.2.2⟩
  · -- a clean-up LEAVE now waits for the object it owes
    cases Option.some.inj (hm.symm.trans (ow.chan ▸ hmo))
    rcases hpc' with ⟨_, hj⟩ | ⟨rfl, _⟩
    · exact nomatch hj.symm.trans ow.kind
    · exact .inr (.inl rfl)

/-- **Lock discipline.** The lock of `o` is free or `t`'s own before (`hbefore`), and afterwards `t` holds it or is done and has
    released it (`hafter`).  No other task holds it meanwhile, so those at `o` are waiting and rely on its name only, and every task
    elsewhere finds its object untouched.  Of the clauses about the views `stale_empty` is asked at `o` only; the others, which also
    depend on the index and the exemption, are the caller's. -/
theorem InvW.move {s s' : St} {x x' : Option Nat} {t o : Nat} {pc' : Pc} {ob' : Obj} {ix : User → List Name} (h : InvW s x)
    (hs' : s' = { setPc (setObj s o ob') t pc' with index := ix }) (hname : ob'.name = (s.objs o).name) (hat : At s t o)
    (hbefore : (s.objs o).holder = none ∨ holds s t o)
    (hafter : pc'.lock? = some o ∧ ob'.holder = some t ∨ pc' = .done ∧ ob'.holder = none)
    (hnm : pc' = .jNotify o ∨ pc' = .lNotify o → (s.tasks t).m ∈ ob'.members)
    (nonempty : ∀ n o, s'.map n = some o → some o ≠ x' → (s'.objs o).members ≠ [])
    (stale_empty : ob'.members ≠ [] → s.map (s.objs o).name = some o)
    (idx_mem : ∀ u n, n ∈ s'.index u → ∃ o, s'.map n = some o ∧ u ∈ (s'.objs o).members)
    (mem_idx : ∀ n o u, s'.map n = some o → u ∈ (s'.objs o).members → n ∈ s'.index u ∨ debt s' u n o) : InvW s' x' := by
  have hlt : o < s.next := hat.elim (fun c => h.fresh_map _ _ c.2) fun hr => (h.sees hr).1
  have hon : (s.objs o).name = (s.tasks t).n := hat.elim (fun c => h.named _ _ c.2) fun hr => (h.sees hr).2.name
  have hnext : s'.next = s.next := hs' ▸ rfl
  have hmap : s'.map = s.map := hs' ▸ rfl
  have hself : s'.tasks t = { s.tasks t with pc := pc' } := hs' ▸ if_pos rfl
  have other : ∀ i, i ≠ t → s'.tasks i = s.tasks i := fun i hi => hs' ▸ if_neg hi
  have hobj : s'.objs o = ob' := hs' ▸ if_pos rfl
  have hobj' : ∀ i, i ≠ o → s'.objs i = s.objs i := fun i hi => hs' ▸ if_neg hi
  have hname' : ∀ i, (s'.objs i).name = (s.objs i).name := fun i => by
    by_cases hi : i = o
    · rw [hi, hobj, hname]
    · rw [hobj' i hi]
  have alone : ∀ i, holds s i o → i = t := fun i hi =>
    hbefore.elim (fun hf => nomatch hf.symm.trans (h.pc_holder i o hi))
      fun ht => Option.some.inj ((h.pc_holder i o hi).symm.trans (h.pc_holder t o ht))
  refine .of_sees (fun i o' hr => ?_) (fun n o' hm => hnext ▸ h.fresh_map n o' (hmap ▸ hm)) (fun o' hle => ?_)
    (fun n o' hm => (hname' o').trans (h.named n o' (hmap ▸ hm))) (fun o' i hh => ?_) nonempty (fun o' hne => ?_) idx_mem
    mem_idx
  · rw [hnext]
    by_cases hi : i = t
    · rw [hi, hself] at hr ⊢
      replace hr : pc'.obj? = some o' := hr
      rcases hafter with ⟨hl, hd⟩ | ⟨rfl, _⟩
      · cases Option.some.inj (hr.symm.trans (Pc.obj?_of_lock? hl))
        rw [hobj]
        exact ⟨hlt, hname.trans hon, fun _ => hd, hnm, fun hp => nomatch (hp ▸ hl : (Pc.jWait o).lock? = some o)⟩
      · cases hr
    · rw [other i hi] at hr ⊢
      by_cases ho' : o' = o
      · cases ho'
        exact ⟨(h.sees hr).1, (hname' _).trans (h.sees hr).2.name, fun hl => absurd (alone i (holds_iff.mpr hl)) hi,
          fun hp => absurd (alone i (hp.elim (.of_eq ·) (.of_eq ·))) hi, (h.sees hr).2.join⟩
      · rw [hobj' o' ho']
        exact h.sees hr
  · rw [hnext] at hle
    rw [hobj' o' (by omega)]
    exact h.fresh_obj o' hle
  · by_cases ho' : o' = o
    · cases ho'
      rw [hobj] at hh
      rcases hafter with ⟨hl, h1⟩ | ⟨_, h1⟩
      · cases Option.some.inj (h1.symm.trans hh)
        exact holds_iff.mpr (hself ▸ hl)
      · exact nomatch h1.symm.trans hh
    · rw [hobj' o' ho'] at hh
      have := h.holder_pc o' i hh
      -- the only lock `t` can hold is that of `o`
      have hi : i ≠ t := fun e => ho' (hat.unique (.inr (e ▸ this).obj?))
      exact (holds_congr (other i hi)).mpr this
  · rw [hname', hmap]
    by_cases ho' : o' = o
    · cases ho'
      exact stale_empty (hobj ▸ hne)
    · exact h.stale_empty o' (hobj' o' ho' ▸ hne)

/-- `hdebt`: what `t` owes for `o` as a clean-up LEAVE it still owes at `pc'` -/
theorem inv_pcmove {s : St} {x : Option Nat} (h : InvW s x) (t o : Nat) (hd : Option Nat) (pc' : Pc) (hat : At s t o)
    (hbefore : (s.objs o).holder = none ∨ holds s t o) (hafter : pc'.lock? = some o ∧ hd = some t ∨ pc' = .done ∧ hd = none)
    (hmem : pc' = .jNotify o ∨ pc' = .lNotify o → (s.tasks t).m ∈ (s.objs o).members)
    (hdebt : ∀ u n, Owes (s.tasks t) u n o → Owes { s.tasks t with pc := pc' } u n o) :
    let s' := setPc (setObj s o { s.objs o with holder := hd }) t pc'
    InvW s' x := by
  intro s'
  have hmems : ∀ i, (s'.objs i).members = (s.objs i).members := fun i => by
    rw [setPc_objs, setObj_objs]
    split
    · next hi => rw [hi]
    · rfl
  refine h.move (ix := s.index) rfl rfl hat hbefore hafter hmem
    (fun n o' hm hx => by rw [hmems]; exact h.nonempty n o' hm hx) (h.stale_empty o)
    (fun u n hi => (h.idx_mem u n hi).imp fun o' ⟨hm, hu⟩ => ⟨hm, by rw [hmems]; exact hu⟩)
    (fun n o' u hm hu => ?_)
  rw [hmems] at hu
  -- what `t` owes it owes for `o`
  exact (h.mem_idx n o' u hm hu).imp id fun hdb => hdb.keep rfl (fun _ => rfl) fun ow =>
    hat.unique (ow.at hm) ▸ hdebt u n (hat.unique (ow.at hm) ▸ ow)

/-- member list and index entry change only at the pair (user, channel) (`hms`, `hil`) and agree there afterwards (`hpt`).  `o` is
    exempt in the result: `ms'` may be empty, and then the channel has yet to leave the map.  `hx`: the object exempt before, if any, is `o`. -/
theorem inv_memmove {s : St} {x : Option Nat} (h : InvW s x) (t o : Nat) (pc' : Pc) (ms' : List User) (hd : Option Nat)
    (il' : List Name) (hmo : s.map (s.tasks t).n = some o) (hx : ∀ o', some o' = x → o' = o) (hat : At s t o)
    (hbefore : (s.objs o).holder = none ∨ holds s t o) (hafter : pc'.lock? = some o ∧ hd = some t ∨ pc' = .done ∧ hd = none)
    (hnm : pc' = .jNotify o ∨ pc' = .lNotify o → (s.tasks t).m ∈ ms')
    (hms : ∀ u, u ≠ (s.tasks t).m → (u ∈ ms' ↔ u ∈ (s.objs o).members))
    (hil : ∀ n, n ≠ (s.tasks t).n → (n ∈ il' ↔ n ∈ s.index (s.tasks t).m))
    (hpt : (s.tasks t).n ∈ il' ↔ (s.tasks t).m ∈ ms') :
    let s' := setPc (setIndex (setObj s o { s.objs o with members := ms', holder := hd }) (s.tasks t).m il') t pc'
    InvW s' (some o) := by
  intro s'
  have hobj : s'.objs o = { s.objs o with members := ms', holder := hd } := if_pos rfl
  have hobj' : ∀ i, i ≠ o → s'.objs i = s.objs i := fun i hi => if_neg hi
  -- off the pair (user, channel) both views are as they were; at the pair they agree
  have hI : ∀ u n, ¬ (u = (s.tasks t).m ∧ n = (s.tasks t).n) → (n ∈ s'.index u ↔ n ∈ s.index u) := fun u n hp => by
    show n ∈ (if u = (s.tasks t).m then il' else s.index u) ↔ _
    split
    · next hu => exact hu ▸ hil n fun hn => hp ⟨hu, hn⟩
    · exact Iff.rfl
  have hM : ∀ u n o', ¬ (u = (s.tasks t).m ∧ n = (s.tasks t).n) → s.map n = some o' →
      (u ∈ (s'.objs o').members ↔ u ∈ (s.objs o').members) := fun u n o' hp hm => by
    by_cases ho : o' = o
    · cases ho
      rw [hobj]
      exact hms u fun hu => hp ⟨hu, (h.named n o hm).symm.trans (h.named _ o hmo)⟩
    · rw [hobj' o' ho]
  have hP : (s.tasks t).n ∈ s'.index (s.tasks t).m ↔ (s.tasks t).m ∈ (s'.objs o).members := by
    rw [hobj]
    exact (show s'.index (s.tasks t).m = il' from if_pos rfl) ▸ hpt
  refine h.move rfl rfl hat hbefore hafter hnm (fun n o' hm hx' => ?_)
    (fun _ => (h.named _ o hmo).symm ▸ hmo) (fun u n hi => ?_) (fun n o' u hm hu => ?_)
  · have ho : o' ≠ o := fun e => hx' (e ▸ rfl)
    rw [hobj' o' ho]
    exact h.nonempty n o' hm fun e => ho (hx o' e)
  · by_cases hp : u = (s.tasks t).m ∧ n = (s.tasks t).n
    · obtain ⟨rfl, rfl⟩ := hp
      exact ⟨o, hmo, hP.mp hi⟩
    · obtain ⟨o', hm, hu⟩ := h.idx_mem u n ((hI u n hp).mp hi)
      exact ⟨o', hm, (hM u n o' hp hm).mpr hu⟩
  · by_cases hp : u = (s.tasks t).m ∧ n = (s.tasks t).n
    · obtain ⟨rfl, rfl⟩ := hp
      cases Option.some.inj (hmo.symm.trans hm)
      exact .inl (hP.mpr hu)
    · exact (h.mem_idx n o' u hm ((hM u n o' hp hm).mp hu)).imp (hI u n hp).mpr fun hdb =>
        hdb.keep rfl (fun _ => rfl) fun ow => absurd ⟨ow.user.symm, ow.chan.symm⟩ hp

theorem InvW.mono {s : St} {x x' : Option Nat} (h : InvW s x)
    (hne : ∀ n o, s.map n = some o → some o = x → (s.objs o).members ≠ []) : InvW s x' :=
  { h with nonempty := fun n o hm _ => Classical.byCases (hne n o hm) (h.nonempty n o hm) }

theorem inv_remove_empty {s : St} {x : Option Nat} (h : InvW s x) (o : Nat) (n : Name) (hx : ∀ o', some o' = x → o' = o)
    (hm : s.map n = some o) (he : (s.objs o).members = []) : Inv (setMap s n none) := by
  have sub : ∀ n' o', (setMap s n none).map n' = some o' → s.map n' = some o' ∧ n' ≠ n := fun n' o' hm' => by
    rw [setMap_map] at hm'
    split at hm'
    · cases hm'
    · next hne => exact ⟨hm', hne⟩
  have keep : ∀ n' o', s.map n' = some o' → (s.objs o').members ≠ [] → (setMap s n none).map n' = some o' := fun n' o' hm' hne =>
    (if_neg fun (e : n' = n) => hne (Option.some.inj ((e ▸ hm').symm.trans hm) ▸ he)).trans hm'
  exact { h with
    fresh_map := fun n' o' hm' => h.fresh_map n' o' (sub n' o' hm').1
    named := fun n' o' hm' => h.named n' o' (sub n' o' hm').1
    nonempty := fun n' o' hm' _ =>
      have ⟨hm', hne⟩ := sub n' o' hm'
      h.nonempty n' o' hm' fun e => hne ((h.named n' o' hm').symm.trans (hx o' e ▸ h.named n o hm))
    stale_empty := fun o' hne => keep _ o' (h.stale_empty o' hne) hne
    idx_mem := fun u n' hi => (h.idx_mem u n' hi).imp fun o' ⟨hm', hu⟩ => ⟨keep n' o' hm' (List.ne_nil_of_mem hu), hu⟩
    mem_idx := fun n' o' u hm' hu => h.mem_idx n' o' u (sub n' o' hm').1 hu }

theorem inv_create (s : St) (n : Name) (h : Inv s) (hn : s.map n = none) :
    let s' := setMap (setObj { s with next := s.next + 1 } s.next { name := n, members := [], holder := none }) n (some s.next)
    InvW s' (some s.next) := by
  intro s'
  -- nothing refers to the new object yet; everything else is where it was
  have hnew : s'.objs s.next = { name := n, members := [], holder := none } := if_pos rfl
  have hobj : ∀ o, o ≠ s.next → s'.objs o = s.objs o := fun o ho => if_neg ho
  have old : ∀ {n' o}, s.map n' = some o → s'.map n' = some o ∧ s'.objs o = s.objs o := fun {n' o} hm =>
    ⟨(if_neg fun e => by rw [e, hn] at hm; cases hm).trans hm, hobj o (Nat.ne_of_lt (h.fresh_map _ _ hm))⟩
  have new : ∀ n' o, s'.map n' = some o → n' = n ∧ o = s.next ∨ s.map n' = some o := fun n' o hm => by
    rw [show s'.map n' = if n' = n then some s.next else s.map n' from rfl] at hm
    split at hm
    · next e => exact .inl ⟨e, (Option.some.inj hm).symm⟩
    · exact .inr hm
  refine .of_sees ?sees ?fresh_map ?fresh_obj ?named ?holder_pc ?nonempty ?stale_empty ?idx_mem ?mem_idx
  case sees =>
    intro i o hr
    obtain ⟨a, b⟩ := h.sees hr
    exact ⟨Nat.lt_succ_of_lt a, hobj o (Nat.ne_of_lt a) ▸ b⟩
  case fresh_map =>
    intro n' o hm
    rcases new n' o hm with ⟨_, rfl⟩ | hm
    · exact Nat.lt_succ_self _
    · exact Nat.lt_succ_of_lt (h.fresh_map n' o hm)
  case fresh_obj =>
    intro o (hle : s.next + 1 ≤ o)
    rw [hobj o (by omega)]
    exact h.fresh_obj o (by omega)
  case named =>
    intro n' o hm
    rcases new n' o hm with ⟨rfl, rfl⟩ | hm
    · rw [hnew]
    · rw [(old hm).2]
      exact h.named n' o hm
  case holder_pc =>
    intro o i hh
    have ho : o ≠ s.next := fun e => by rw [e, hnew] at hh; cases hh
    rw [hobj o ho] at hh
    exact h.holder_pc o i hh
  case nonempty =>
    intro n' o hm hx
    rcases new n' o hm with ⟨_, rfl⟩ | hm
    · exact absurd rfl hx
    · rw [(old hm).2]
      exact h.nonempty n' o hm nofun
  case stale_empty =>
    intro o hne
    have ho : o ≠ s.next := fun e => by rw [e, hnew] at hne; exact hne rfl
    rw [hobj o ho] at hne ⊢
    exact (old (h.stale_empty o hne)).1
  case idx_mem =>
    intro u n' hi
    obtain ⟨o, hm, hu⟩ := h.idx_mem u n' hi
    exact ⟨o, (old hm).1, (old hm).2 ▸ hu⟩
  case mem_idx =>
    intro n' o u hm hu
    rcases new n' o hm with ⟨_, rfl⟩ | hm
    · rw [hnew] at hu; cases hu
    · rw [(old hm).2] at hu
      exact h.mem_idx n' o u hm hu

/-- `hx` as in `inv_memmove` (the JOIN has just created `o`); `hconf`: the name can be mapped to another object than
    the one locked only when nothing is exempt (the JOIN looked `o` up, and may have waited for it) -/
theorem inv_lockedJoin {s : St} {x : Option Nat} (t o : Nat) (e : Env) (hs : s.strict = true) (h : InvW s x)
    (hx : ∀ o', some o' = x → o' = o) (hconf : s.map (s.tasks t).n ≠ some o → x = none)
    (hpc : (s.tasks t).pc = .start ∧ (s.tasks t).kind = .join ∨ (s.tasks t).pc = .jWait o) (hfree : (s.objs o).holder = none) :
    Inv (lockedJoin s t o e) := by
  have hnh : ∀ o', ¬ holds s t o' := hpc.elim (fun c => unlocked c.1) fun hw => unlocked hw
  have hj : ∀ {β : Prop}, (s.tasks t).kind = .leave false → β := fun hk =>
    nomatch (hpc.elim And.right (h.jwait_join t o)).symm.trans hk
  unfold lockedJoin
  simp only [hs, if_true]
  split
  · next hc => cases hconf hc; exact inv_finish h t hnh hj                -- the re-check fails
  · next hc =>
    have hmap : s.map (s.tasks t).n = some o := by simpa using hc
    split
    · split                                                               -- refused
      · next he => exact inv_finish (inv_remove_empty h o _ hx hmap he) t hnh hj
      · next he => exact inv_finish (h.mono (fun _ o' _ e => hx o' e ▸ he)) t hnh hj
    · exact (inv_memmove h t o (.jNotify o) _ (some t) _ hmap hx (hpc.imp (⟨·.1, hmap⟩) (Pc.obj?_of_eq ·)) (.inl hfree)
        (.inl ⟨rfl, rfl⟩) (fun _ => List.mem_cons_self) (fun u hu => by simp [hu]) (fun n hn => by simp [hn]) (by simp)).mono
        fun _ o' _ e => by cases e; simp                                  -- member and index entry are written

theorem inv_lockedLeave (s : St) (t : Nat) (h : Inv s) (o : Nat)
    (hpc : (s.tasks t).pc = .start ∧ s.map (s.tasks t).n = some o ∧ (∃ b, (s.tasks t).kind = .leave b) ∨ (s.tasks t).pc = .lWait o)
    (hfree : (s.objs o).holder = none) : Inv (lockedLeave s t o) := by
  have hnh : ∀ o', ¬ holds s t o' := hpc.elim (fun c => unlocked c.1) fun hw => unlocked hw
  have hat : At s t o := hpc.imp (fun c => ⟨c.1, c.2.1⟩) (Pc.obj?_of_eq ·)
  fun_cases lockedLeave s t o
  · next hn => exact inv_finish h t hnh fun _ _ _ hm => nomatch hn.symm.trans hm          -- no such channel
  · next hmem => exact inv_finish h t hnh fun _ _ hat' _ => hat.unique hat' ▸ hmem        -- not a member
  · next hmem =>                                                                          -- the lock is taken
    exact inv_pcmove h t o (some t) (.lNotify o) hat (.inl hfree) (.inl ⟨rfl, rfl⟩) (fun _ => Decidable.of_not_not hmem)
      fun _ _ ow => ⟨ow.kind, ow.user, ow.chan, .inr (.inr rfl)⟩

theorem inv_release (s : St) (t : Nat) (h : Inv s) (o : Nat) (hh : holds s t o)
    (hnd : (s.tasks t).pc = .lNotify o → hasTx (s.tasks t).kind = true) :
    Inv (setPc (setObj s o { s.objs o with holder := none }) t .done) :=
  inv_pcmove h t o none .done (.inr hh.obj?) (.inr hh) (.inr ⟨rfl, rfl⟩) (fun hp => by simp at hp)
    fun _ _ ⟨hk, _, _, hp⟩ => by
      -- of the pcs at which a clean-up LEAVE owes, only `lNotify` holds the lock, and there `hnd` excludes it
      rcases hh with hh | hh | hh <;> rw [hh] at hp hnd <;> simp at hp
      simp [hk, hasTx] at hnd

def others (s : St) (t o : Nat) : List User := (s.objs o).members.filter (· ≠ (s.tasks t).m)

/-- what the roll-back of a JOIN and the removal of a LEAVE have in common; the lock goes to `hd` -/
def removed (s : St) (t o : Nat) (hd : Option Nat) : St :=
  setIndex (setObj s o { s.objs o with members := others s t o, holder := hd }) (s.tasks t).m
    (delIdx (s.index (s.tasks t).m) (s.tasks t).n)

theorem removed_release (s : St) (t o : Nat) (hd : Option Nat) :
    setObj (removed s t o hd) o { (removed s t o hd).objs o with holder := none } = removed s t o none := by
  have : (setObj (removed s t o hd) o { (removed s t o hd).objs o with holder := none }).objs = (removed s t o none).objs :=
    funext fun i => by
      show (if i = o then _ else if i = o then _ else _) = if i = o then _ else _
      split
      · simp [removed]
      · rfl
  exact congrArg (fun f => { removed s t o hd with objs := f }) this

/-- `hfin`: the task ends and releases the lock (roll-back of a JOIN), or goes on to the hand-over notification and keeps it -/
theorem inv_removed {s : St} (h : Inv s) (t o : Nat) (pc' : Pc) (hd : Option Nat)
    (hpc : (s.tasks t).pc = .jNotify o ∨ (s.tasks t).pc = .lNotify o)
    (hfin : pc' = .done ∧ hd = none ∨ pc' = .lHandover o ∧ hd = (s.objs o).holder) :
    let s' := setPc (removed s t o hd) t pc'
    (others s t o = [] → Inv (setMap s' (s.tasks t).n none)) ∧ (others s t o ≠ [] → Inv s') := by
  intro s'
  have hh : holds s t o := hpc.elim (.of_eq ·) (.of_eq ·)
  have hmem : (s.tasks t).m ∈ (s.objs o).members := hpc.elim (h.jn_member t o) (h.ln_member t o)
  have hmo : s.map (s.tasks t).n = some o := (h.sees hh.obj?).2.name ▸ h.stale_empty o (List.ne_nil_of_mem hmem)
  have hs' : InvW s' (some o) := inv_memmove h t o pc' (others s t o) hd _ hmo nofun (.inr hh.obj?) (.inr hh)
    (hfin.symm.imp (fun c => ⟨Pc.lock?_of_eq c.1, c.2.trans (h.pc_holder t o hh)⟩) id)
    (fun hp => by rcases hfin with ⟨rfl, _⟩ | ⟨rfl, _⟩ <;> simp at hp)
    (fun u hu => by simp [others, hu]) (fun n hn => by simp [hn]) (by simp [others])
  have hms : (s'.objs o).members = others s t o := congrArg Obj.members (if_pos rfl)
  exact ⟨fun he => inv_remove_empty hs' o _ (fun _ => Option.some.inj) hmo (hms.trans he),
    fun hne => hs'.mono fun _ o' _ e => Option.some.inj e ▸ hms ▸ hne⟩

/-- `idle`: the task is done, or still finds the lock taken.
    `join` / `leave`: the lock is free, at the task's start or after it has waited.  `release`: nothing but the lock changes
    (a JOIN acknowledged or cancelled, a LEAVE cancelled or refused, the hand-over announced). -/
@[elab_as_elim]
theorem runTask_cases {motive : St → Prop} (s : St) (t : Nat) (e : Env)
    (idle : motive s)
    (join : ∀ o, (s.tasks t).pc = .start ∧ (s.tasks t).kind = .join ∨ (s.tasks t).pc = .jWait o → (s.objs o).holder = none →
      motive (lockedJoin s t o e))
    (joinCreate : (s.tasks t).pc = .start → (s.tasks t).kind = .join → s.map (s.tasks t).n = none →
      motive (lockedJoin (setMap (setObj { s with next := s.next + 1 } s.next { name := (s.tasks t).n, members := [], holder := none })
        (s.tasks t).n (some s.next)) t s.next e))
    (leave : ∀ o, (s.tasks t).pc = .start ∧ s.map (s.tasks t).n = some o ∧ (∃ b, (s.tasks t).kind = .leave b) ∨
        (s.tasks t).pc = .lWait o → (s.objs o).holder = none → motive (lockedLeave s t o))
    (wait : ∀ o pc', (s.tasks t).pc = .start → s.map (s.tasks t).n = some o →
      pc' = .jWait o ∧ (s.tasks t).kind = .join ∨ pc' = .lWait o ∧ (∃ b, (s.tasks t).kind = .leave b) → motive (setPc s t pc'))
    (noChannel : (s.tasks t).pc = .start → s.map (s.tasks t).n = none → motive (setPc s t .done))
    (cancelledWaiting : ∀ o, (s.tasks t).pc = .jWait o ∨ (s.tasks t).pc = .lWait o ∧ hasTx (s.tasks t).kind = true →
      motive (setPc s t .done))
    (release : ∀ o, holds s t o → ((s.tasks t).pc = .lNotify o → hasTx (s.tasks t).kind = true) →
      motive (setPc (setObj s o { s.objs o with holder := none }) t .done))
    (removedLast : ∀ o, (s.tasks t).pc = .jNotify o ∨ (s.tasks t).pc = .lNotify o → others s t o = [] →
      motive (setPc (setMap (removed s t o none) (s.tasks t).n none) t .done))
    (removedSome : ∀ o, (s.tasks t).pc = .jNotify o ∨ (s.tasks t).pc = .lNotify o → others s t o ≠ [] →
      motive (setPc (removed s t o none) t .done))
    (leaveHandover : ∀ o, (s.tasks t).pc = .lNotify o → others s t o ≠ [] →
      motive (setPc (removed s t o (s.objs o).holder) t (.lHandover o))) :
    motive (runTask s t e) := by
  have tx : ∀ {b : Bool}, (b && hasTx (s.tasks t).kind) = true → hasTx (s.tasks t).kind = true := fun h =>
    (Bool.and_eq_true _ _ ▸ h).2
  fun_cases runTask s t e
  case case1 | case10 | case13 => exact idle                                              -- done; waiting and the lock still taken
  case case2 hpc hk o _ hfree => exact join o (.inl ⟨hpc, hk⟩) hfree                      -- start, JOIN, lock free
  case case3 hpc hk o hm _ => exact wait o _ hpc hm (.inl ⟨rfl, hk⟩)                      -- start, JOIN, lock taken
  case case4 hpc hk hm _ => exact joinCreate hpc hk hm                                    -- start, JOIN, no such channel
  case case5 hpc _ _ hm => exact noChannel hpc hm                                         -- start, LEAVE, no such channel
  case case6 hpc b hk o hm hfree => exact leave o (.inl ⟨hpc, hm, b, hk⟩) hfree           -- start, LEAVE, lock free
  case case7 hpc b hk o hm _ => exact wait o _ hpc hm (.inr ⟨rfl, b, hk⟩)                 -- start, LEAVE, lock taken
  case case8 o hpc _ => exact cancelledWaiting o (.inl hpc)                               -- jWait, cancelled
  case case9 o hpc _ hfree => exact join o (.inr hpc) hfree                               -- jWait, lock free
  case case11 o hpc hc => exact cancelledWaiting o (.inr ⟨hpc, tx hc⟩)                    -- lWait, a request, cancelled
  case case12 o hpc _ hfree => exact leave o (.inr hpc) hfree                             -- lWait, lock free
  case case14 o hpc _ | case15 o hpc _ _ => exact release o (.of_eq hpc) fun h0 => nomatch hpc.symm.trans h0  -- jNotify: cancelled; acknowledged
  case case16 o hpc _ _ _ _ =>                                                            -- jNotify, notification failed
    split
    · next hms => exact removedLast o (.inl hpc) hms
    · next hms => exact removedSome o (.inl hpc) hms
  case case17 o hpc hc | case18 o hpc _ hc => exact release o (.of_eq hpc) fun _ => tx hc  -- lNotify, a request: cancelled; notification failed
  case case19 o hpc _ _ _ _ hms => exact removed_release .. ▸ removedLast o (.inr hpc) hms  -- lNotify, the last member goes
  case case20 o hpc _ _ _ _ hms _ => exact leaveHandover o hpc hms                        -- lNotify, members remain, the owner goes
  case case21 o hpc _ _ _ _ hms _ => exact removed_release .. ▸ removedSome o (.inr hpc) hms  -- lNotify, members remain
  case case22 o hpc => exact release o (.of_eq hpc) fun h0 => nomatch hpc.symm.trans h0  -- lHandover

theorem inv_runTask (s : St) (hs : s.strict = true) (h : Inv s) (t : Nat) (e : Env) : Inv (runTask s t e) :=
  runTask_cases s t e
    (idle := h)
    (join := fun o => inv_lockedJoin t o e hs h nofun fun _ => rfl)
    (joinCreate := fun hpc hk hm => inv_lockedJoin t s.next e hs (inv_create s _ h hm) (fun _ => Option.some.inj)
      (fun hc => absurd (if_pos rfl) hc) (.inl ⟨hpc, hk⟩) (congrArg Obj.holder (if_pos rfl)))
    (leave := inv_lockedLeave s t h)
    (wait := inv_wait h t)
    (noChannel := fun hpc hm => inv_finish h t (unlocked hpc) fun _ _ _ hm' => nomatch hm.symm.trans hm')
    (cancelledWaiting := fun o hpc => inv_finish h t (hpc.elim (fun hw => unlocked hw) fun c => unlocked c.1) fun hk => by
      rcases hpc with hpc | ⟨_, hc⟩
      · exact nomatch (h.jwait_join t o hpc).symm.trans hk
      · simp [hk, hasTx] at hc)
    (release := inv_release s t h)
    (removedLast := fun o hpc hms => (inv_removed h t o .done none hpc (.inl ⟨rfl, rfl⟩)).1 hms)
    (removedSome := fun o hpc hms => (inv_removed h t o .done none hpc (.inl ⟨rfl, rfl⟩)).2 hms)
    (leaveHandover := fun o hpc hms => (inv_removed h t o (.lHandover o) _ (.inr hpc) (.inr ⟨rfl, rfl⟩)).2 hms)

theorem mem_set_or {α} (l : List α) (i : Nat) (v p : α) (hp : p ∈ l) : p ∈ l.set i v ∨ l[i]? = some p := by
  obtain ⟨j, hj⟩ := List.mem_iff_getElem?.mp hp
  by_cases hij : i = j
  · right; rw [hij]; exact hj
  · left
    apply List.mem_iff_getElem?.mpr
    exact ⟨j, by rw [List.getElem?_set_ne hij]; exact hj⟩

theorem inv_step (s : St) (hs : s.strict = true) (h : Inv s) (l : Label) : Inv (step s l) := by
  cases l with
  | run t e => exact inv_runTask s hs h t e
  | spawn t k m n =>
    simp only [step]
    split
    · next hd =>
      exact inv_retask h t _ s.rests (unlocked hd) nofun
        (fun _ _ _ _ _ hdb => hdb.keep rfl (fun _ => rfl) fun ow => absurd hd ow.not_done)
    · exact h
  | cleanup u =>
    refine { h with idx_mem := ?_, mem_idx := ?_ }
    · intro u' n hi
      simp only [step, setIndex_index] at hi
      split at hi
      · cases hi
      · exact h.idx_mem u' n hi
    · -- what was in the index entry taken away is owed by the new clean-up record
      intro n o u' hm hu
      simp only [step, setIndex_index]
      rcases h.mem_idx n o u' hm hu with hi | ⟨p, hp, hpu, hpn⟩ | ht
      · by_cases hx : u' = u
        · exact .inr (.inl ⟨(u, s.index u), List.mem_cons_self, hx.symm, hx ▸ hi⟩)
        · exact .inl (by rw [if_neg hx]; exact hi)
      · exact .inr (.inl ⟨p, List.mem_cons_of_mem _ hp, hpu, hpn⟩)
      · exact .inr (.inr ht)
  | cleanupNext i n t =>
    simp only [step]
    split
    · exact h
    · next u r hr =>
      split
      · next hc =>
        refine inv_retask h t _ _ (unlocked hc.2) nofun fun n' o u' _ _ hdb => ?_
        -- the channel handed over is owed by the new LEAVE, the others stay in the record
        rcases debt_iff.mp hdb with ⟨p, hp, hpu, hpn⟩ | ⟨j, ow⟩
        · rcases mem_set_or s.rests i (u, r.filter (· ≠ n)) p hp with hin | heq
          · exact .inl ⟨p, hin, hpu, hpn⟩
          · cases hr.symm.trans heq
            by_cases hnn : n' = n
            · exact debt_iff.mpr (.inr ⟨t, by simpa using ⟨rfl, hpu, hnn.symm, .inl rfl⟩⟩)
            · exact .inl ⟨_, List.mem_set (List.getElem?_eq_some_iff.mp hr).1 _, hpu, by simpa using ⟨hpn, hnn⟩⟩
        · have hj : j ≠ t := fun e => Owes.not_done ow (e ▸ hc.2)
          exact debt_iff.mpr (.inr ⟨j, by simp only [if_neg hj]; exact ow⟩)
      · exact h

/-- what a step leaves alone.  `index`: no index entry that `s` has not, except (when `acc`) for user `u`. -/
structure Keeps (s s' : St) (u : User) (acc : Bool) : Prop where
  strict : s'.strict = s.strict
  next   : s.next ≤ s'.next
  name   : ∀ x, x < s.next → (s'.objs x).name = (s.objs x).name
  index  : ∀ v x, x ∈ s'.index v → x ∈ s.index v ∨ acc = true ∧ v = u

theorem Keeps.refl (s : St) (u : User) (a : Bool) : Keeps s s u a := ⟨rfl, Nat.le_refl _, fun _ _ => rfl, fun _ _ => .inl⟩
theorem Keeps.tasks {s s' u a} (h : Keeps s s' u a) (tasks rests) : Keeps s { s' with tasks := tasks, rests := rests } u a :=
  ⟨h.strict, h.next, h.name, h.index⟩
theorem Keeps.pc {s s' u a} (h : Keeps s s' u a) (t pc) : Keeps s (setPc s' t pc) u a := h.tasks ..
theorem Keeps.map {s s' u a} (h : Keeps s s' u a) (n v) : Keeps s (setMap s' n v) u a := ⟨h.strict, h.next, h.name, h.index⟩
theorem Keeps.obj {s s' u a} (h : Keeps s s' u a) (o : Nat) (ms : List User) (hd : Option Nat) :
    Keeps s (setObj s' o { s'.objs o with members := ms, holder := hd }) u a :=
  ⟨h.strict, h.next, fun x hx => by
    rw [setObj_objs]
    split
    · next e => exact e ▸ h.name x hx
    · exact h.name x hx, h.index⟩
theorem Keeps.idx {s s' u a} (h : Keeps s s' u a) (m : User) (il : List Name)
    (hil : ∀ x ∈ il, x ∈ s'.index m ∨ a = true ∧ m = u) : Keeps s (setIndex s' m il) u a :=
  ⟨h.strict, h.next, h.name, fun v x hx => by
    rw [setIndex_index] at hx
    split at hx
    · next e => subst e; exact (hil x hx).elim (h.index v x) .inr
    · exact h.index v x hx⟩
theorem Keeps.del {s s' u a} (h : Keeps s s' u a) (m : User) (n : Name) : Keeps s (setIndex s' m (delIdx (s'.index m) n)) u a :=
  h.idx m _ fun _ hx => .inl ((mem_delIdx _ _ _).mp hx).1

theorem Keeps.trans {s s1 s2 u a} (h1 : Keeps s s1 u a) (h2 : Keeps s1 s2 u a) : Keeps s s2 u a :=
  ⟨h2.strict.trans h1.strict, Nat.le_trans h1.next h2.next,
    fun x hx => (h2.name x (Nat.lt_of_lt_of_le hx h1.next)).trans (h1.name x hx),
    fun v x hx => (h2.index v x hx).elim (h1.index v x) .inr⟩

theorem keeps_create (s : St) (ob : Obj) (n : Name) (v : Option Nat) (u a) :
    Keeps s (setMap (setObj { s with next := s.next + 1 } s.next ob) n v) u a :=
  ⟨rfl, Nat.le_succ _, fun _ hx => congrArg Obj.name (if_neg (Nat.ne_of_lt hx)), fun _ _ => .inl⟩

theorem keeps_removed (s : St) (t o : Nat) (hd : Option Nat) (u a) : Keeps s (removed s t o hd) u a :=
  ((Keeps.refl ..).obj ..).del ..

theorem lockedJoin_keeps (s : St) (t o : Nat) (e : Env) : Keeps s (lockedJoin s t o e) (s.tasks t).m e.accept := by
  fun_cases lockedJoin s t o e
  · exact (Keeps.refl ..).pc ..                                         -- the re-check fails
  · split                                                               -- refused
    · exact ((Keeps.refl ..).map ..).pc ..
    · exact (Keeps.refl ..).pc ..
  · next h =>                                                           -- member and index entry are written
    refine (((Keeps.refl ..).obj ..).idx _ _ fun x hx => ?_).pc ..
    simp only [Bool.or_eq_true, Bool.not_eq_eq_eq_not, Bool.not_true, not_or, Bool.not_eq_false] at h
    exact (mem_addIdx _ _ _).mp hx |>.elim (fun _ => .inr ⟨h.1, rfl⟩) .inl

theorem lockedLeave_keeps (s : St) (t o : Nat) (u a) : Keeps s (lockedLeave s t o) u a := by
  fun_cases lockedLeave s t o
  · exact (Keeps.refl ..).pc ..                                         -- no such channel
  · exact (Keeps.refl ..).pc ..                                         -- not a member
  · exact ((Keeps.refl ..).obj ..).pc ..                                -- the lock is taken

theorem runTask_keeps (s : St) (t : Nat) (e : Env) : Keeps s (runTask s t e) (s.tasks t).m e.accept :=
  runTask_cases s t e
    (idle := .refl ..)
    (join := fun _ _ _ => lockedJoin_keeps ..)
    (joinCreate := fun _ _ _ => (keeps_create ..).trans (lockedJoin_keeps ..))
    (leave := fun _ _ _ => lockedLeave_keeps ..)
    (wait := fun _ _ _ _ _ => (Keeps.refl ..).pc ..)
    (noChannel := fun _ _ => (Keeps.refl ..).pc ..)
    (cancelledWaiting := fun _ _ => (Keeps.refl ..).pc ..)
    (release := fun _ _ _ => ((Keeps.refl ..).obj ..).pc ..)
    (removedLast := fun _ _ _ => ((keeps_removed ..).map ..).pc ..)
    (removedSome := fun _ _ _ => (keeps_removed ..).pc ..)
    (leaveHandover := fun _ _ _ => (keeps_removed ..).pc ..)

theorem step_keeps (s : St) (l : Label) :
    Keeps s (step s l) (match l with | .run t _ => (s.tasks t).m | _ => 0) (match l with | .run _ e => e.accept | _ => false) := by
  cases l with
  | run t e => exact runTask_keeps s t e
  | spawn t k m n => simp only [step]; split <;> exact (Keeps.refl ..).tasks ..
  | cleanup u => exact ((Keeps.refl ..).idx u [] nofun).tasks ..
  | cleanupNext i n t =>
    simp only [step]
    split
    · exact .refl ..
    · split <;> exact (Keeps.refl ..).tasks ..

theorem step_strict (s : St) (l : Label) : (step s l).strict = s.strict := (step_keeps s l).strict

theorem inv_run (s : St) (hs : s.strict = true) (h : Inv s) (ls : List Label) : Inv (run s ls) :=
  (List.foldlRecOn ls step (motive := fun s => s.strict = true ∧ Inv s) ⟨hs, h⟩ fun s ih l _ =>
    ⟨(step_strict s l).trans ih.1, inv_step s ih.1 ih.2 l⟩).2

theorem Quiescent.no_debt {s : St} (hq : Quiescent s) {u : User} {n : Name} {o : Nat} : ¬ debt s u n o := fun hd => by
  rcases debt_iff.mp hd with ⟨p, hp, _, hn⟩ | ⟨t, ow⟩
  · rw [hq.2 p hp] at hn; cases hn
  · exact Owes.not_done ow (hq.1 t)

end Narwhal.Micro
