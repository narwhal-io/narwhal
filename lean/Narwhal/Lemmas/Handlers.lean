import Narwhal.Lemmas.Cleanup
/-!
# What a handler does, without unfolding it

An authenticated handler refuses through `fail` or commits what its check admitted; JOIN and LEAVE can still fail after the check,
when the modulator refuses the notification, and CHANNELS has no check.
-/
namespace Narwhal.Server

theorem fail_closes (s : Srv) (k : Nat) (i : Option Nat) {r : Reason} (env : Env) (hr : r.recoverable = false) :
    fail s k i r env = ((dropConn s k env).1, { conn := k, frame := .error i r, close := true } :: (dropConn s k env).2) := by
  simp [fail, hr, errFrame]

theorem fail_stays (s : Srv) (k : Nat) (i : Option Nat) {r : Reason} (env : Env) (hr : r.recoverable = true) :
    fail s k i r env = (s, [{ conn := k, frame := .error i r }]) := by
  simp [fail, hr, errFrame]

@[simp] theorem fail_cfg (s : Srv) (k : Nat) (i : Option Nat) (r : Reason) (env : Env) : (fail s k i r env).1.cfg = s.cfg := by
  cases hr : r.recoverable
  · rw [fail_closes s k i env hr]; exact dropConn_cfg s k env
  · rw [fail_stays s k i env hr]

theorem mem_fail {s : Srv} {k : Nat} {i : Option Nat} {r : Reason} {env : Env} {e : Emit} (h : e ∈ (fail s k i r env).2) :
    e.frame = .error i r ∨ e.plainEvent := by
  cases hr : r.recoverable
  · rw [fail_closes s k i env hr] at h
    rcases List.mem_cons.mp h with rfl | h
    · exact Or.inl rfl
    · exact Or.inr (dropConn_plain s k env e h)
  · rw [fail_stays s k i env hr, List.mem_singleton] at h
    subst h; exact Or.inl rfl

theorem doJoin_refused {s k u id raw ob env e} (hc : joinCheck s u id raw ob = .error e) :
    doJoin s k u id raw ob env = fail s k e.1 e.2 env := by
  simp only [doJoin, hc]

theorem doJoin_admitted {s k u id raw ob env h m} (hc : joinCheck s u id raw ob = .ok (h, m)) :
    doJoin s k u id raw ob env =
      if notifyFails s env then fail s k none .internalServerError env
      else (joinedState s h m, joinedEvents s k h m ++ [{ conn := k, frame := .joinAck id raw }]) := by
  simp only [doJoin, hc]

theorem doLeave_refused {s k u id raw ob env e} (hc : leaveCheck s u id raw ob = .error e) :
    doLeave s k u id raw ob env = fail s k e.1 e.2 env := by
  simp only [doLeave, hc]

theorem doLeave_admitted {s k u id raw ob env c m} (hc : leaveCheck s u id raw ob = .ok (c, m)) :
    doLeave s k u id raw ob env =
      if notifyFails s env then fail s k none .internalServerError env else leaveTail s k id c m env := by
  simp only [doLeave, hc]

theorem doBroadcast_refused {s k u id raw q p env e} (hc : broadcastCheck s u id raw q p env = .error e) :
    doBroadcast s k u id raw q p env = fail s k e.1 e.2 env := by
  simp only [doBroadcast, hc]

theorem doBroadcast_admitted {s k u id raw q p env c p'} (hc : broadcastCheck s u id raw q p env = .ok (c, p')) :
    doBroadcast s k u id raw q p env =
      if q = some 0 then (s, { conn := k, frame := .broadcastAck id } :: deliveries s k u raw c p')
      else (s, deliveries s k u raw c p' ++ [{ conn := k, frame := .broadcastAck id }]) := by
  simp only [doBroadcast, hc]

theorem doMembers_refused {s k u id raw pg sz env e} (hc : membersCheck s u id raw = .error e) :
    doMembers s k u id raw pg sz env = fail s k e.1 e.2 env := by
  simp only [doMembers, hc]

theorem doMembers_admitted {s k u id raw pg sz env c} (hc : membersCheck s u id raw = .ok c) :
    doMembers s k u id raw pg sz env = reply s k (membersReply s id raw c pg sz) := by
  simp only [doMembers, hc]

theorem doGetAcl_refused {s k u id raw t pg sz env e} (hc : getAclCheck s u id raw = .error e) :
    doGetAcl s k u id raw t pg sz env = fail s k e.1 e.2 env := by
  simp only [doGetAcl, hc]

theorem doGetAcl_admitted {s k u id raw t pg sz env c} (hc : getAclCheck s u id raw = .ok c) :
    doGetAcl s k u id raw t pg sz env = reply s k (aclReply id raw c t pg sz) := by
  simp only [doGetAcl, hc]

theorem doSetAcl_refused {s k u id raw t a ns env e} (hc : setAclCheck s u id raw t a ns = .error e) :
    doSetAcl s k u id raw t a ns env = fail s k e.1 e.2 env := by
  simp only [doSetAcl, hc]

theorem doSetAcl_admitted {s k u id raw t a ns env c} (hc : setAclCheck s u id raw t a ns = .ok c) :
    doSetAcl s k u id raw t a ns env =
      ({ s with chans := putChan s.chans (rebuild s.cfg.domain (setAclOf c t (updatedAcl c t a ns))) },
        [{ conn := k, frame := .setAclAck id }]) := by
  simp only [doSetAcl, hc]

theorem doGetConfig_refused {s k u id raw env e} (hc : getConfigCheck s u id raw = .error e) :
    doGetConfig s k u id raw env = fail s k e.1 e.2 env := by
  simp only [doGetConfig, hc]

theorem doGetConfig_admitted {s k u id raw env c} (hc : getConfigCheck s u id raw = .ok c) :
    doGetConfig s k u id raw env = reply s k (.chanConfig id raw c.maxClients c.maxPayload) := by
  simp only [doGetConfig, hc]

theorem doSetConfig_refused {s k u id raw mc mp env e} (hc : setConfigCheck s u id raw mc mp = .error e) :
    doSetConfig s k u id raw mc mp env = fail s k e.1 e.2 env := by
  simp only [doSetConfig, hc]

theorem doSetConfig_admitted {s k u id raw mc mp env c} (hc : setConfigCheck s u id raw mc mp = .ok c) :
    doSetConfig s k u id raw mc mp env =
      ({ s with chans := putChan s.chans (mergeConfig c mc mp) }, [{ conn := k, frame := .setConfigAck id }]) := by
  simp only [doSetConfig, hc]

theorem doModDirect_refused {s k id p env e} (hc : modDirectCheck s id p env = .error e) :
    doModDirect s k id p env = fail s k e.1 e.2 env := by
  simp only [doModDirect, hc]

theorem doModDirect_admitted {s k id p env i} (hc : modDirectCheck s id p env = .ok i) :
    doModDirect s k id p env = reply s k (.modDirectAck i) := by
  simp only [doModDirect, hc]

/-- `refused` covers a refused check, a notification the modulator refuses, and a request kind that is out of phase; `answer` the
    requests that only read (MEMBERS, CHANNELS, GET_CHAN_ACL, GET_CHAN_CONFIG, an admitted MOD_DIRECT), of whose reply it keeps
    that it bears the id. -/
@[elab_as_elim]
theorem authedStep_cases {motive : Req → Srv × List Emit → Prop} (s : Srv) (k : Nat) (u : Str) (env : Env)
    (refused : ∀ r i reason, Addressed r.id? (i, reason) → motive r (fail s k i reason env))
    (join : ∀ id raw ob h m, joinCheck s u id raw ob = .ok (h, m) → notifyFails s env = false →
      motive (.join id raw ob) (joinedState s h m, joinedEvents s k h m ++ [{ conn := k, frame := .joinAck id raw }]))
    (leave : ∀ id raw ob c m, leaveCheck s u id raw ob = .ok (c, m) → notifyFails s env = false →
      motive (.leave id raw ob) (leaveTail s k id c m env))
    (broadcast : ∀ id raw q p c p', broadcastCheck s u id raw q p env = .ok (c, p') →
      motive (.broadcast id raw q p)
        (if q = some 0 then (s, { conn := k, frame := .broadcastAck id } :: deliveries s k u raw c p')
          else (s, deliveries s k u raw c p' ++ [{ conn := k, frame := .broadcastAck id }])))
    (setAcl : ∀ id raw t a ns c, setAclCheck s u id raw t a ns = .ok c →
      motive (.setAcl id raw t a ns)
        ({ s with chans := putChan s.chans (rebuild s.cfg.domain (setAclOf c t (updatedAcl c t a ns))) },
          [{ conn := k, frame := .setAclAck id }]))
    (setConfig : ∀ id raw mc mp c, setConfigCheck s u id raw mc mp = .ok c →
      motive (.setConfig id raw mc mp)
        ({ s with chans := putChan s.chans (mergeConfig c mc mp) }, [{ conn := k, frame := .setConfigAck id }]))
    (answer : ∀ r i f, r.id? = some i → f.corrId = some i → motive r (reply s k f))
    (r : Req) : motive r (authedStep s k u r env) := by
  have closing : ∀ r reason, reason.recoverable = false → motive r (fail s k none reason env) :=
    fun r _ h => refused r none _ (.closing h)
  cases r with
  | join id raw ob =>
    show motive _ (doJoin ..)
    rcases hc : joinCheck s u id raw ob with e | ⟨h, m⟩
    · rw [doJoin_refused hc]; exact refused _ _ _ (joinCheck_checked.addressed hc)
    · rw [doJoin_admitted hc]; split
      · exact closing _ _ rfl
      · next hn => exact join _ _ _ _ _ hc (by simpa using hn)
  | leave id raw ob =>
    show motive _ (doLeave ..)
    rcases hc : leaveCheck s u id raw ob with e | ⟨c, m⟩
    · rw [doLeave_refused hc]; exact refused _ _ _ (leaveCheck_checked.addressed hc)
    · rw [doLeave_admitted hc]; split
      · exact closing _ _ rfl
      · next hn => exact leave _ _ _ _ _ hc (by simpa using hn)
  | broadcast id raw q p =>
    show motive _ (doBroadcast ..)
    rcases hc : broadcastCheck s u id raw q p env with e | ⟨c, p'⟩
    · rw [doBroadcast_refused hc]; exact refused _ _ _ (broadcastCheck_checked.addressed hc)
    · rw [doBroadcast_admitted hc]; exact broadcast _ _ _ _ _ _ hc
  | members id raw pg sz =>
    show motive _ (doMembers ..)
    rcases hc : membersCheck s u id raw with e | c
    · rw [doMembers_refused hc]; exact refused _ _ _ (membersCheck_checked.addressed hc)
    · rw [doMembers_admitted hc]; exact answer _ _ _ rfl rfl
  | channels id pg sz o => exact answer _ _ _ rfl rfl
  | getAcl id raw t pg sz =>
    show motive _ (doGetAcl ..)
    rcases hc : getAclCheck s u id raw with e | c
    · rw [doGetAcl_refused hc]; exact refused _ _ _ (getAclCheck_checked.addressed hc)
    · rw [doGetAcl_admitted hc]; exact answer _ _ _ rfl rfl
  | setAcl id raw t a ns =>
    show motive _ (doSetAcl ..)
    rcases hc : setAclCheck s u id raw t a ns with e | c
    · rw [doSetAcl_refused hc]; exact refused _ _ _ (setAclCheck_checked.addressed hc)
    · rw [doSetAcl_admitted hc]; exact setAcl _ _ _ _ _ _ hc
  | getConfig id raw =>
    show motive _ (doGetConfig ..)
    rcases hc : getConfigCheck s u id raw with e | c
    · rw [doGetConfig_refused hc]; exact refused _ _ _ (getConfigCheck_checked.addressed hc)
    · rw [doGetConfig_admitted hc]; exact answer _ _ _ rfl rfl
  | setConfig id raw mc mp =>
    show motive _ (doSetConfig ..)
    rcases hc : setConfigCheck s u id raw mc mp with e | c
    · rw [doSetConfig_refused hc]; exact refused _ _ _ (setConfigCheck_checked.addressed hc)
    · rw [doSetConfig_admitted hc]; exact setConfig _ _ _ _ _ hc
  | modDirect i? p =>
    show motive _ (doModDirect ..)
    rcases hc : modDirectCheck s i? p env with e | j
    · rw [doModDirect_refused hc]; exact refused _ _ _ (modDirectCheck_checked.addressed hc)
    · rw [doModDirect_admitted hc]; exact answer _ _ _ (modDirectCheck_checked.ok hc) rfl
  | connect | identify | auth | other | malformed => exact closing _ _ rfl

@[elab_as_elim]
theorem connectingStep_cases {motive : Req → Srv × List Emit → Prop} (s : Srv) (k : Nat) (env : Env)
    (refused : ∀ r reason, reason.recoverable = false → motive r (fail s k none reason env))
    (connect : ∀ hb, motive (.connect 1 hb) (setPhase s k .connected,
      [{ conn := k, frame := .connectAck s.cfg.authRequired s.cfg.appProtocol (clampHb s.cfg hb)
            s.cfg.maxInflight s.cfg.maxMessage s.cfg.maxPayload s.cfg.maxSubs }]))
    (r : Req) : motive r (connectingStep s k r env) := by
  fun_cases connectingStep s k r env
  case case3 v hb hv _ => cases Decidable.of_not_not hv; exact connect hb    -- CONNECT, version 1, modulator reachable
  all_goals exact refused _ _ rfl

@[elab_as_elim]
theorem connectedStep_cases {motive : Req → Srv × List Emit → Prop} (s : Srv) (k : Nat) (env : Env)
    (refused : ∀ r reason, motive r (fail s k none reason env))
    (identify : ∀ raw u, s.cfg.authRequired = false → Id.identifyUsername raw s.cfg.domain = some u → connsOf s u = [] →
      motive (.identify raw) (register s k u, [{ conn := k, frame := .identifyAck (fullNid s u) }]))
    (accepted : ∀ t u, s.cfg.authRequired = true → env.down = false → env.auth = .success u → u ≠ [] →
      motive (.auth t) (register s k u, [{ conn := k, frame := .authAck none (some true) (some (fullNid s u)) }]))
    (challenged : ∀ t ch, s.cfg.authRequired = true → env.down = false → env.auth = .continue_ ch →
      motive (.auth t) (reply s k (.authAck (some ch) none none)))
    (denied : ∀ t, s.cfg.authRequired = true → env.down = false → env.auth = .failure →
      motive (.auth t) (reply s k (.authAck none (some false) none)))
    (r : Req) : motive r (connectedStep s k r env) := by
  fun_cases connectedStep s k r env
  case case4 raw ha u hu hfree => exact identify raw u (by simpa using ha) hu (by simpa using hfree)    -- IDENTIFY, name free
  case case8 t ha hd u hs hv =>                                                                        -- AUTH, `success u`
    exact accepted t u (by simpa using ha) (by simpa using hd) hs (by intro h0; simp [h0] at hv)
  case case9 t ha hd ch hs => exact challenged t ch (by simpa using ha) (by simpa using hd) hs         -- AUTH, `continue_ ch`
  case case10 t ha hd hs => exact denied t (by simpa using ha) (by simpa using hd) hs                  -- AUTH, `failure`
  all_goals exact refused _ _

theorem connectedStep_unexpected (s : Srv) (k : Nat) (env : Env) {r : Req}
    (hi : ∀ raw, r = .identify raw → s.cfg.authRequired = true) (ha : ∀ t, r = .auth t → s.cfg.authRequired = false) :
    connectedStep s k r env = fail s k none .unexpectedMessage env := by
  unfold connectedStep
  split
  · rw [if_pos (hi _ rfl)]
  · rw [if_pos (by rw [ha _ rfl]; rfl)]
  · rfl

theorem fail_preauth (s : Srv) (k : Nat) (i : Option Nat) (r : Reason) (env : Env) {p : Phase}
    (hk : phaseOf s k = some p) (hp : ∀ u, p ≠ .authed u) :
    fail s k i r env = (if r.recoverable then s else withoutConn s k,
      [{ conn := k, frame := .error i r, close := !r.recoverable }]) := by
  cases hr : r.recoverable
  · rw [fail_closes s k i env hr, dropConn_preauth s k env hk hp]; rfl
  · rw [fail_stays s k i env hr]; rfl

/-! `Settled k r out`: one frame to `k` settles `r` (it bears the id of `r`, or is an ERROR without id that closes `k`), and the
frames beside it bear no id; only a BROADCAST has MESSAGEs among them. -/

def Beside (r : Req) (l : List Emit) : Prop :=
  ∀ e ∈ l, e.frame.corrId = none ∧ (e.frame.isMessage = true → ∃ id raw q p, r = .broadcast id raw q p)

theorem Beside.nil {r : Req} : Beside r [] := fun _ h => nomatch h

theorem Beside.append {r : Req} {a b : List Emit} (ha : Beside r a) (hb : Beside r b) : Beside r (a ++ b) :=
  fun e he => (List.mem_append.mp he).elim (ha e) (hb e)

theorem Emit.plainEvent.beside {e : Emit} (h : e.plainEvent) (r : Req) :
    e.frame.corrId = none ∧ (e.frame.isMessage = true → ∃ id raw q p, r = .broadcast id raw q p) :=
  have ⟨hid, hno⟩ := Frame.of_isEvent h.1
  ⟨hid, fun hm => nomatch hno.symm.trans hm⟩

theorem Beside.of_plain {r : Req} {l : List Emit} (h : ∀ e ∈ l, e.plainEvent) : Beside r l := fun e he => (h e he).beside r

theorem Beside.deliveries {s k u id raw q p c p'} : Beside (.broadcast id raw q p) (deliveries s k u raw c p') := by
  intro e he
  rw [(routeTo_mem he).1]
  exact ⟨rfl, fun _ => ⟨_, _, _, _, rfl⟩⟩

def Settles (r : Req) (e : Emit) : Prop :=
  (∃ i, r.id? = some i ∧ e.frame.corrId = some i) ∨ (e.close = true ∧ ∃ reason, e.frame = .error none reason)

structure SettledBy (k : Nat) (r : Req) (out pre : List Emit) (e : Emit) (post : List Emit) : Prop where
  split   : out = pre ++ e :: post
  conn    : e.conn = k
  settles : Settles r e
  before  : Beside r pre
  after   : Beside r post

def Settled (k : Nat) (r : Req) (out : List Emit) : Prop := ∃ pre e post, SettledBy k r out pre e post

theorem Settled.message {k : Nat} {r : Req} {out : List Emit} (h : Settled k r out) {e : Emit} (he : e ∈ out)
    (hm : e.frame.isMessage = true) : ∃ id raw q p, r = .broadcast id raw q p := by
  obtain ⟨pre, x, post, h⟩ := h
  rw [h.split] at he
  rcases List.mem_append.mp he with he | he
  · exact (h.before e he).2 hm
  · rcases List.mem_cons.mp he with rfl | he
    · rcases h.settles with ⟨j, _, hf⟩ | ⟨_, reason, hf⟩
      · rw [Frame.corrId_of_isMessage hm] at hf; cases hf
      · rw [hf] at hm; cases hm
    · exact (h.after e he).2 hm

theorem fail_settled (s : Srv) (k : Nat) (r : Req) (i : Option Nat) (reason : Reason) (env : Env)
    (ha : Addressed r.id? (i, reason)) : Settled k r (fail s k i reason env).2 := by
  have own : ∀ j cl, i = some j → Settles r { conn := k, frame := .error i reason, close := cl } := by
    intro j cl hj; subst hj
    exact Or.inl ⟨j, (ha.1.resolve_right nofun).symm, rfl⟩
  cases hr : reason.recoverable
  · rw [fail_closes s k i env hr]
    refine ⟨[], _, _, rfl, rfl, ?_, .nil, .of_plain (dropConn_plain s k env)⟩
    cases i with
    | some j => exact own j _ rfl
    | none => exact Or.inr ⟨rfl, reason, rfl⟩
  · rw [fail_stays s k i env hr]
    refine ⟨[], _, [], rfl, rfl, ?_, .nil, .nil⟩
    cases i with
    | some j => exact own j _ rfl
    | none => rw [ha.2 rfl] at hr; cases hr

theorem Beside.fail {s k r env reason} : Beside r (fail s k none reason env).2 := fun e he =>
  (mem_fail he).elim (fun hf => by rw [hf]; exact ⟨rfl, nofun⟩) (·.beside r)

/-- **Normal form of what an authenticated request queues.**  The frames beside the settling one are EVENTs, the MESSAGEs of a
    BROADCAST, and the closing ERROR of a LEAVE whose hand-over is refused. -/
theorem authedStep_settled (s : Srv) (k : Nat) (u : Str) (r : Req) (env : Env) : Settled k r (authedStep s k u r env).2 := by
  have ack : ∀ {r : Req} {i : Nat} (f : Frame) {pre post : List Emit}, r.id? = some i → f.corrId = some i →
      Beside r pre → Beside r post → Settled k r (pre ++ { conn := k, frame := f } :: post) :=
    fun f _ _ hi hf hpre hpost => ⟨_, _, _, rfl, rfl, Or.inl ⟨_, hi, hf⟩, hpre, hpost⟩
  refine authedStep_cases s k u env ?refused ?join ?leave ?broadcast ?setAcl ?setConfig ?answer r
  case refused => exact fun r i reason ha => fail_settled s k r i reason env ha
  case join =>
    intro id raw ob h m _ _
    exact ack (.joinAck id raw) rfl rfl (.of_plain routeTo_event_plain) .nil
  case leave =>
    intro id raw ob c m _ _
    have hl : Beside (.leave id raw ob) (leftEvents s c m (some k)) := .of_plain routeTo_event_plain
    have hr : Beside (.leave id raw ob) (removeMember s c m env).2.1 := .of_plain (removeMember_plain s c m env)
    unfold leaveTail
    split
    · simpa using ack (.leaveAck id) rfl rfl hl hr
    · simpa using ack (.leaveAck id) rfl rfl hl (hr.append .fail)
  case broadcast =>
    intro id raw q p c p' _
    split
    · exact ack (pre := []) (.broadcastAck id) rfl rfl .nil .deliveries
    · exact ack (.broadcastAck id) rfl rfl .deliveries .nil
  case setAcl => exact fun id raw t a ns c _ => ack (pre := []) _ rfl rfl .nil .nil
  case setConfig => exact fun id raw mc mp c _ => ack (pre := []) _ rfl rfl .nil .nil
  case answer => exact fun r i f hi hf => ack (pre := []) f hi hf .nil .nil

end Narwhal.Server
