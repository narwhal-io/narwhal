/-- of a fan-out over distinct sources, what satisfies `p` comes from the one source that can supply it -/
theorem List.countP_flatMap_of_unique {α β} {us : List α} {g : α → List β} {p : β → Bool} {t : α}
    (ht : t ∈ us) (hnd : us.Nodup) (hother : ∀ t' ∈ us, t' ≠ t → ∀ b ∈ g t', p b = false) :
    (us.flatMap g).countP p = (g t).countP p := by
  have none : ∀ as : List α, (∀ a ∈ as, a ∈ us ∧ a ≠ t) → (as.flatMap g).countP p = 0 := fun as has =>
    List.countP_eq_zero.mpr fun b hb => by
      obtain ⟨a, ha, hba⟩ := List.mem_flatMap.mp hb
      simp [hother a (has a ha).1 (has a ha).2 b hba]
  -- split the sources at `t`: those before and after it contribute nothing
  obtain ⟨l₁, l₂, rfl⟩ := List.append_of_mem ht
  obtain ⟨_, hnd, hl₁⟩ := List.nodup_append.mp hnd
  rw [List.flatMap_append, List.flatMap_cons, List.countP_append, List.countP_append,
    none l₁ fun a ha => ⟨by simp [ha], hl₁ a ha t List.mem_cons_self⟩,
    none l₂ fun a ha => ⟨by simp [ha], fun h => (List.nodup_cons.mp hnd).1 (h ▸ ha)⟩, Nat.zero_add, Nat.add_zero]
