import Narwhal.Lemmas.Invariants
import Narwhal.Lemmas.Handlers
/-!
# The invariant of every reachable state

`WF` is proved as one inductive invariant of `step`, not handler by handler but once for each state transformer a handler can end
in; `step_cases` and the case principles of `Handlers.lean` say that a step is one of these.  The loop of the disconnect clean-up
keeps it in debt form (`CleanInv`): the user's index entry is gone from the start, and a channel that still has the user as a
member is still to be visited.

`memb s u h` : user `u` is in the member set of the channel stored under handler `h`
`IndexOK s`  : `h ∈ in_channels[u]  ↔  u ∈ channels[h].members`   (reverse index = member sets)
`RouterOK s` : `k ∈ connections[u]  ↔  k is a live connection authenticated as u`
`LiveOK s`   : `u ∈ channels[h].members → connections[u] ≠ ∅`      (no ghost members)
-/
namespace Narwhal.Server

def memb (s : Srv) (u h : Str) : Prop := ∃ c, findChan s.chans h = some c ∧ u ∈ c.members

def IndexOK (s : Srv) : Prop := ∀ u h, h ∈ indexOf s u ↔ memb s u h

def RouterOK (s : Srv) : Prop := ∀ u k, k ∈ connsOf s u ↔ ∃ c, findConn s.conns k = some c ∧ c.phase = .authed u

def LiveOK (s : Srv) : Prop := ∀ u h, memb s u h → connsOf s u ≠ []

structure WF (s : Srv) : Prop where
  chans  : ChansOK s
  index  : IndexOK s
  router : RouterOK s
  live   : LiveOK s

theorem memb_put (s s' : Srv) (c : Chan) (hch : s'.chans = putChan s.chans c) (u h : Str) :
    memb s' u h ↔ if c.handler = h then u ∈ c.members else memb s u h := by
  unfold memb
  rw [hch, findChan_putChan]
  split
  · exact ⟨fun ⟨_, hc', hu⟩ => Option.some.inj hc' ▸ hu, fun hu => ⟨c, rfl, hu⟩⟩
  · rfl

theorem memb_del (s s' : Srv) (h0 : Str) (hch : s'.chans = delChan s.chans h0) (u h : Str) :
    memb s' u h ↔ h0 ≠ h ∧ memb s u h := by
  unfold memb
  rw [hch, findChan_delChan]
  split
  · next he => exact ⟨(fun ⟨_, hc', _⟩ => nomatch hc'), (fun hm => absurd he hm.1)⟩
  · next he => exact ⟨fun hm => ⟨he, hm⟩, And.right⟩

theorem memb_same (s s' : Srv) (hch : s'.chans = s.chans) (u h : Str) : memb s' u h ↔ memb s u h := by
  unfold memb; rw [hch]

theorem memb_chanOrNew (s : Srv) (u h : Str) : memb s u h ↔ u ∈ (chanOrNew s h).members := by
  unfold memb chanOrNew
  cases hf : findChan s.chans h with
  | none => simp [newChan]
  | some c => simp

theorem memb_of_find {s : Srv} {h : Str} {c : Chan} (hf : findChan s.chans h = some c) (u : Str) :
    memb s u h ↔ u ∈ c.members := by
  unfold memb; rw [hf]; simp

theorem joinedState_memb (s : Srv) (hc : ChansOK s) (h m v h' : Str) :
    memb (joinedState s h m) v h' ↔ memb s v h' ∨ (v = m ∧ h' = h) := by
  rw [memb_put s _ (withMember s.cfg.domain (chanOrNew s h) m) rfl, withMember_handler, (chanOrNew_ok s hc h).1]
  split
  · next he =>
    subst he
    rw [withMember_members, memb_chanOrNew, List.mem_append, List.mem_singleton, and_iff_left rfl]
  · next he => exact ⟨Or.inl, fun hm => hm.elim id (fun e => absurd e.2.symm he)⟩

theorem removeMember_memb (s : Srv) (c : Chan) (u : Str) (env : Env)
    (hf : findChan s.chans c.handler = some c) (v h : Str) :
    memb (removeMember s c u env).1 v h ↔ memb s v h ∧ ¬ (v = u ∧ h = c.handler) := by
  rw [removeMember_fst]
  split
  · next hemp =>
    -- the channel is deleted: `u` was its only member
    have hall : ∀ x ∈ c.members, x = u := fun x hx => Classical.byContradiction fun hne =>
      List.ne_nil_of_mem (List.mem_filter.mpr ⟨hx, by simpa using hne⟩) (List.isEmpty_iff.mp hemp)
    rw [memb_del s _ c.handler rfl]
    constructor
    · rintro ⟨hne, hm⟩; exact ⟨hm, fun e => hne e.2.symm⟩
    · rintro ⟨hm, hnot⟩
      refine ⟨fun he => ?_, hm⟩
      subst he
      exact hnot ⟨hall v ((memb_of_find hf v).mp hm), rfl⟩
  · rw [memb_put s _ _ rfl, afterRemoval_handler]
    split
    · next he =>
      subst he
      rw [afterRemoval_members, memb_of_find hf, List.mem_filter]
      simp
    · next he => exact ⟨fun hm => ⟨hm, fun e => he e.2.symm⟩, And.left⟩

theorem IndexOK_same {s s' : Srv} (hi : IndexOK s) (hix : s'.index = s.index) (hch : s'.chans = s.chans) :
    IndexOK s' := by
  intro v h
  rw [memb_same s s' hch, indexOf_same hix]; exact hi v h

/-- loop invariant of `leave_all_channels` for user `u` with the channels `pending` still to visit -/
structure CleanInv (u : Str) (pending : List Str) (s : Srv) : Prop where
  chans  : ChansOK s
  others : ∀ v h, v ≠ u → (h ∈ indexOf s v ↔ memb s v h)
  gone   : lookupA s.index u = none
  debt   : ∀ h, memb s u h → h ∈ pending

theorem CleanInv.skip {u h : Str} {rest : List Str} {s : Srv} (hinv : CleanInv u (h :: rest) s) (hno : ¬ memb s u h) :
    CleanInv u rest s :=
  ⟨hinv.chans, hinv.others, hinv.gone, fun h' hm =>
    (List.mem_cons.mp (hinv.debt h' hm)).elim (fun e => absurd (e ▸ hm) hno) id⟩

theorem CleanInv.remove {u h : Str} {rest : List Str} {s : Srv} (hinv : CleanInv u (h :: rest) s) (env : Env) {c : Chan}
    (hf : findChan s.chans h = some c) : CleanInv u rest (removeMember s c u env).1 := by
  have hf' := hinv.chans.find_handler hf
  have hix : (removeMember s c u env).1.index = s.index := by
    rw [removeMember_fst]; exact indexDel_absent hinv.gone
  refine ⟨removeMember_ChansOK _ _ _ _ hinv.chans (hinv.chans h c hf).2, fun v h' hv => ?_, hix ▸ hinv.gone, fun h' hm => ?_⟩
  · rw [removeMember_memb s c u env hf', indexOf_same hix, hinv.others v h' hv]
    exact ⟨fun hm => ⟨hm, fun e => hv e.1⟩, And.left⟩
  · rw [removeMember_memb s c u env hf'] at hm
    exact (List.mem_cons.mp (hinv.debt h' hm.1)).elim (fun e => absurd ⟨rfl, e.trans (hinv.chans h c hf).1.symm⟩ hm.2) id

theorem leaveAll_clean (s : Srv) (u : Str) (env : Env) (hc : ChansOK s) (hi : IndexOK s) :
    ChansOK (leaveAll s u env).1 ∧ IndexOK (leaveAll s u env).1 ∧
      ∀ v h, memb (leaveAll s u env).1 v h ↔ memb s v h ∧ v ≠ u := by
  -- with `u`'s entry erased, the entries of the others still list the channels they are members of in `s`
  have kept : ∀ {s' : Srv}, s'.index = eraseA s.index u → ∀ v h, v ≠ u → (h ∈ indexOf s' v ↔ memb s v h) := fun e v h hv => by
    rw [indexOf_eraseA e, if_neg (Ne.symm hv)]; exact hi v h
  have hinv : CleanInv u [] (leaveAll s u env).1 :=
    leaveAll_induct (motive := fun pending acc => CleanInv u pending acc.1)
      { chans := ChansOK_same hc rfl rfl, others := kept rfl, gone := (lookupA_eraseA ..).trans (if_pos rfl),
        debt := fun h hm => (hi u h).mpr hm }
      (fun h rest acc hinv hno => hinv.skip fun ⟨c, hf, hm⟩ => hno c hf hm) (fun h rest acc c hinv hf _ => hinv.remove env hf)
  have hix := leaveAll_index s u env
  have hno : ∀ h, ¬ memb (leaveAll s u env).1 u h := fun h hm => List.not_mem_nil (hinv.debt h hm)
  refine ⟨hinv.chans, fun v h => ?_, fun v h => ?_⟩
  · by_cases hv : v = u
    · subst hv
      rw [indexOf_eraseA hix, if_pos rfl]
      exact ⟨nofun, fun hm => absurd hm (hno h)⟩
    · exact hinv.others v h hv
  · by_cases hv : v = u
    · subst hv; exact ⟨fun hm => absurd hm (hno h), fun hm => absurd rfl hm.2⟩
    · rw [← hinv.others v h hv, kept hix v h hv, and_iff_left hv]

theorem RouterOK.iff {s : Srv} (hr : RouterOK s) (u : Str) (k : Nat) : k ∈ connsOf s u ↔ phaseOf s k = some (.authed u) :=
  (hr u k).trans phaseOf_eq_some.symm

/-- connection `k` changes phase to `p'` (`none`: it is absent afterwards) -/
theorem RouterOK_move {s s' : Srv} (hr : RouterOK s) (k : Nat) (p' : Option Phase)
    (hph : ∀ k', phaseOf s' k' = if k' = k then p' else phaseOf s k')
    (hrt : ∀ v k', k' ≠ k → (k' ∈ connsOf s' v ↔ k' ∈ connsOf s v))
    (hk : ∀ v, k ∈ connsOf s' v ↔ p' = some (.authed v)) : RouterOK s' := by
  intro v k'
  rw [← phaseOf_eq_some, hph]
  split
  · next e => subst e; exact hk v
  · next hne => exact (hrt v k' hne).trans (hr.iff v k')

theorem RouterOK_drop {s s' : Srv} (hr : RouterOK s) {k : Nat} {u : Str} (hk : phaseOf s k = some (.authed u))
    (hcn : s'.conns = (withoutConn s k).conns) (hrt : ∀ v, connsOf s' v = if u = v then restConns s u k else connsOf s v) :
    RouterOK s' := by
  refine RouterOK_move hr k none (fun k' => ?_) (fun v k' hne => ?_) (fun v => ?_)
  · rw [← phaseOf_withoutConn]; unfold phaseOf; rw [hcn]
  · rw [hrt]; split
    · next e => subst e; simp [restConns, hne]
    · rfl
  · rw [hrt]; split
    · simp [restConns]
    · next hne =>
      refine ⟨fun hm => ?_, fun e => nomatch e⟩
      rw [hr.iff, hk] at hm
      cases hm; exact absurd rfl hne

/-- for an update of router and connections only: `RouterOK` is shown anew, and nobody connected loses every connection -/
theorem WF.of_conns {s s' : Srv} (hw : WF s) (hcfg : s'.cfg = s.cfg) (hch : s'.chans = s.chans) (hix : s'.index = s.index)
    (hr : RouterOK s') (hl : ∀ v, connsOf s v ≠ [] → connsOf s' v ≠ []) : WF s' :=
  ⟨ChansOK_same hw.chans hcfg hch, IndexOK_same hw.index hix hch, hr,
    fun v h hm => hl v (hw.live v h ((memb_same s s' hch v h).mp hm))⟩

/-- for an update of channels and index only: `ChansOK`, `IndexOK` are shown anew, and whoever becomes a member is connected -/
theorem WF.of_chans {s s' : Srv} (hw : WF s) (hrt : s'.router = s.router) (hcn : s'.conns = s.conns) (hc : ChansOK s')
    (hi : IndexOK s') (hl : ∀ v h, memb s' v h → memb s v h ∨ connsOf s v ≠ []) : WF s' :=
  ⟨hc, hi, fun u k => by rw [connsOf_same hrt, hcn]; exact hw.router u k, fun v h hm => by
    rw [connsOf_same hrt]; exact (hl v h hm).elim (hw.live v h) id⟩

theorem joinedState_WF {s : Srv} (hw : WF s) (h m : Str) (hnm : m ∉ (chanOrNew s h).members) (hlive : connsOf s m ≠ []) :
    WF (joinedState s h m) :=
  hw.of_chans rfl rfl
    (ChansOK_put hw.chans (withMember_ok s.cfg.domain _ m hnm (chanOrNew_ok s hw.chans h).2) rfl rfl)
    (fun v h' => by rw [joinedState_memb s hw.chans, mem_indexAdd (s := s) rfl, hw.index v h', or_comm])
    (fun v h' hm => ((joinedState_memb s hw.chans h m v h').mp hm).imp id (fun ⟨e, _⟩ => e ▸ hlive))

theorem removeMember_WF {s : Srv} (hw : WF s) (c : Chan) (u : Str) (env : Env) (hf : findChan s.chans c.handler = some c) :
    WF (removeMember s c u env).1 :=
  hw.of_chans (by rw [removeMember_fst]) (by rw [removeMember_fst])
    (removeMember_ChansOK s c u env hw.chans (hw.chans _ c hf).2)
    (fun v h => by rw [removeMember_memb s c u env hf, mem_indexDel (s := s) (by rw [removeMember_fst]), hw.index v h])
    (fun v h hm => Or.inl ((removeMember_memb s c u env hf v h).mp hm).1)

theorem WF.update {s : Srv} (hw : WF s) {c c' : Chan} (hf : findChan s.chans c.handler = some c) (hh : c'.handler = c.handler)
    (hm : c'.members = c.members) (hok : ChanOK s.cfg.domain c') : WF { s with chans := putChan s.chans c' } := by
  have hmemb : ∀ v h, memb { s with chans := putChan s.chans c' } v h ↔ memb s v h := by
    intro v h
    rw [memb_put s _ c' rfl, hh]
    split
    · next he => subst he; rw [hm, memb_of_find hf]
    · rfl
  exact hw.of_chans rfl rfl (ChansOK_put hw.chans hok rfl rfl) (fun v h => (hw.index v h).trans (hmemb v h).symm)
    (fun v h hm' => Or.inl ((hmemb v h).mp hm'))

/-- `k` is authenticated neither before nor after (`none`: it is absent), so the router is not concerned -/
theorem WF.rephase {s : Srv} (hw : WF s) (k : Nat) {p p' : Option Phase} {cs : List Conn} (hk : phaseOf s k = p)
    (hph : ∀ k', phaseOf { s with conns := cs } k' = if k' = k then p' else phaseOf s k')
    (hp : ∀ u, p ≠ some (.authed u)) (hp' : ∀ u, p' ≠ some (.authed u)) : WF { s with conns := cs } := by
  refine hw.of_conns rfl rfl rfl (RouterOK_move hw.router k p' hph (fun _ _ _ => Iff.rfl) (fun v => ?_)) (fun _ h => h)
  show k ∈ connsOf s v ↔ _
  rw [hw.router.iff, hk]
  exact ⟨fun e => absurd e (hp v), fun e => absurd e (hp' v)⟩

theorem register_WF {s : Srv} (hw : WF s) (k : Nat) (u : Str) {p : Phase} (hk : phaseOf s k = some p) (hp : ∀ v, p ≠ .authed v) :
    WF (register s k u) := by
  have hrt : ∀ v, connsOf (register s k u) v = if u = v then connsOf s u ++ [k] else connsOf s v :=
    connsOf_setA (s := s) rfl
  refine hw.of_conns rfl rfl rfl (RouterOK_move hw.router k (some (.authed u)) (fun k' => ?_) (fun v k' hne => ?_) (fun v => ?_))
    (fun v h => ?_)
  · rw [phaseOf_register, hk]; rfl
  · rw [hrt]; split
    · next e => subst e; simp [hne]
    · rfl
  · rw [hrt]; split
    · next e => subst e; simp
    · next hne =>
      rw [hw.router.iff, hk]
      exact ⟨fun e => absurd (Option.some.inj e) (hp v), fun e => absurd (Phase.authed.inj (Option.some.inj e)) hne⟩
  · rw [hrt]; split
    · simp
    · exact h

theorem dropConn_last_WF {s : Srv} (hw : WF s) (env : Env) {k : Nat} {u : Str} (hk : phaseOf s k = some (.authed u))
    (hlast : restConns s u k = []) :
    WF (dropConn s k env).1 ∧ ∀ v h, memb (dropConn s k env).1 v h ↔ memb s v h ∧ v ≠ u := by
  rw [dropConn_last s k env hk hlast]
  obtain ⟨hc', hi', hm'⟩ := leaveAll_clean { withoutConn s k with router := eraseA s.router u } u env
    (ChansOK_same hw.chans rfl rfl) (IndexOK_same hw.index rfl rfl)
  have hco : ∀ v, connsOf (leaveAll { withoutConn s k with router := eraseA s.router u } u env).1 v =
      if u = v then restConns s u k else connsOf s v := fun v => by
    rw [connsOf_same (leaveAll_frame (·.router) (fun _ _ _ => rfl) ..), connsOf_eraseA (s := s) rfl, hlast]
  refine ⟨⟨hc', hi', RouterOK_drop hw.router hk (leaveAll_frame (·.conns) (fun _ _ _ => rfl) ..) hco, fun v h hm => ?_⟩, hm'⟩
  obtain ⟨hm0, hvu⟩ := (hm' v h).mp hm
  rw [hco, if_neg (Ne.symm hvu)]
  exact hw.live v h hm0

theorem dropConn_WF {s : Srv} (hw : WF s) (k : Nat) (env : Env) : WF (dropConn s k env).1 := by
  refine dropConn_cases (motive := fun out => WF out.1) s k env (fun _ => hw) ?preauth ?more ?last
  case preauth =>
    intro p hk hp
    exact hw.rephase k hk (phaseOf_withoutConn s k) (fun u e => hp u (Option.some.inj e)) nofun
  case more =>
    intro u hk hne
    refine hw.of_conns rfl rfl rfl (RouterOK_drop hw.router hk rfl (connsOf_setA rfl)) (fun v h => ?_)
    rw [connsOf_setA (s := s) rfl]; split
    · exact hne
    · exact h
  case last =>
    intro u hk hlast
    rw [← dropConn_last s k env hk hlast]
    exact (dropConn_last_WF hw env hk hlast).1

theorem fail_WF {s : Srv} (hw : WF s) (k : Nat) (i : Option Nat) (r : Reason) (env : Env) : WF (fail s k i r env).1 := by
  cases hr : r.recoverable with
  | true => rw [fail_stays s k i env hr]; exact hw
  | false => rw [fail_closes s k i env hr]; exact dropConn_WF hw k env

theorem authedStep_WF {s : Srv} (hw : WF s) (k : Nat) (u : Str) (r : Req) (env : Env)
    (hk : phaseOf s k = some (.authed u)) : WF (authedStep s k u r env).1 := by
  refine authedStep_cases (motive := fun _ out => WF out.1) s k u env (refused := fun _ i reason _ => fail_WF hw k i reason env)
    (answer := fun _ _ _ _ _ => hw) ?join ?leave ?broadcast ?setAcl ?setConfig r
  case join =>
    intro id raw ob h m hc _
    have ok := joinCheck_checked.ok hc
    refine joinedState_WF hw h m ok.fresh ?_
    -- the new member is the requester, who is connected, or somebody the check found connected
    rcases joinMember_ok ok.member with ⟨_, rfl⟩ | ⟨_, _, _, _, hcn⟩
    · exact List.ne_nil_of_mem ((hw.router.iff m k).mpr hk)
    · exact hcn
  case leave =>
    intro id raw ob c m hc _
    obtain ⟨h, _, hf⟩ := (leaveCheck_checked.ok hc).chan
    have hrm := removeMember_WF hw c m env (hw.chans.find_handler hf)
    fun_cases leaveTail s k id c m env
    · exact hrm
    · exact fail_WF hrm k none _ env
  case broadcast => intro id raw q p c p' _; split <;> exact hw
  case setAcl =>
    intro id raw t a ns c hc
    obtain ⟨⟨h, _, hf, _⟩, _⟩ := setAclCheck_checked.ok hc
    exact hw.update (hw.chans.find_handler hf) (setAcl_handler ..) (setAcl_members ..)
      (setAcl_ok (hw.chans h c hf).2)
  case setConfig =>
    intro id raw mc mp c hc
    obtain ⟨⟨h, _, hf, _⟩, _⟩ := setConfigCheck_checked.ok hc
    exact hw.update (hw.chans.find_handler hf) rfl rfl (mergeConfig_ok (hw.chans h c hf).2)

/-- `idle`: an `open_` whose id is taken, a `recv` on a connection that does not exist -/
@[elab_as_elim]
theorem step_cases {motive : Op → Srv × List Emit → Prop} (s : Srv) (env : Env)
    (idle : ∀ op, motive op (s, []))
    (opened : ∀ k, phaseOf s k = none →
      motive (.open_ k) ({ s with conns := s.conns ++ [{ id := k, phase := .connecting }] }, []))
    (closed : ∀ k, motive (.close k) (dropConn s k env))
    (malformed : ∀ k, motive (.recv k .malformed) (fail s k none .badRequest env))
    (connecting : ∀ k r, phaseOf s k = some .connecting → motive (.recv k r) (connectingStep s k r env))
    (connected : ∀ k r, phaseOf s k = some .connected → motive (.recv k r) (connectedStep s k r env))
    (authed : ∀ k r u, phaseOf s k = some (.authed u) → motive (.recv k r) (authedStep s k u r env))
    (op : Op) : motive op (step s op env) := by
  fun_cases step s op env
  · exact idle _
  · next k hk => exact opened k (phaseOf_eq_none.mpr (by simpa using hk))
  · exact closed _
  · exact idle _
  · exact malformed _
  · next k r c hf hp _ => exact connecting k r (phaseOf_eq_some.mpr ⟨c, hf, hp⟩)
  · next k r c hf hp _ => exact connected k r (phaseOf_eq_some.mpr ⟨c, hf, hp⟩)
  · next k r c hf u hp _ => exact authed k r u (phaseOf_eq_some.mpr ⟨c, hf, hp⟩)

theorem step_WF (s : Srv) (op : Op) (env : Env) (h : WF s) : WF (step s op env).1 := by
  refine step_cases (motive := fun _ out => WF out.1) s env (idle := fun _ => h) (closed := fun k => dropConn_WF h k env)
    (malformed := fun k => fail_WF h k none _ env) (authed := fun k r u hk => authedStep_WF h k u r env hk)
    ?opened ?connecting ?connected op
  case opened => exact fun k hk => h.rephase k hk (phaseOf_open rfl hk) nofun nofun
  case connecting =>
    intro k r hk
    have hph : ∀ k', phaseOf (setPhase s k .connected) k' = if k' = k then some .connected else phaseOf s k' :=
      fun k' => by rw [phaseOf_setPhase, hk]; rfl
    exact connectingStep_cases (motive := fun _ out => WF out.1) s k env (refused := fun _ reason _ => fail_WF h k none reason env)
      (connect := fun _ => h.rephase k hk hph nofun nofun) r
  case connected =>
    intro k r hk
    exact connectedStep_cases (motive := fun _ out => WF out.1) s k env (refused := fun _ reason => fail_WF h k none reason env)
      (identify := fun _ u _ _ _ => register_WF h k u hk nofun) (accepted := fun _ u _ _ _ _ => register_WF h k u hk nofun)
      (challenged := fun _ _ _ _ _ => h) (denied := fun _ _ _ _ => h) r

theorem run_WF (s : Srv) (hist : List (Op × Env)) (h : WF s) : WF (run s hist).1 := by
  induction hist generalizing s with
  | nil => exact h
  | cons x xs ih => exact ih _ (step_WF s x.1 x.2 h)

theorem init_WF (cfg : Cfg) : WF (init cfg) where
  chans _ _ hf := nomatch hf
  index _ _ := ⟨nofun, fun ⟨_, hf, _⟩ => nomatch hf⟩
  router _ _ := ⟨nofun, fun ⟨_, hf, _⟩ => nomatch hf⟩
  live _ _ := fun ⟨_, hf, _⟩ => nomatch hf

/-- **every reachable state** satisfies all four invariants -/
theorem reachable_WF (cfg : Cfg) (hist : List (Op × Env)) : WF (run (init cfg) hist).1 :=
  run_WF _ _ (init_WF cfg)

/-- **every reachable state** has coherent reader caches, no empty channel, one owner who is a member -/
theorem reachable_ChansOK (cfg : Cfg) (hist : List (Op × Env)) : ChansOK (run (init cfg) hist).1 :=
  (reachable_WF cfg hist).chans

/-- **every reachable state**: the reverse index and the member sets describe the same relation -/
theorem reachable_IndexOK (cfg : Cfg) (hist : List (Op × Env)) : IndexOK (run (init cfg) hist).1 :=
  (reachable_WF cfg hist).index

end Narwhal.Server
