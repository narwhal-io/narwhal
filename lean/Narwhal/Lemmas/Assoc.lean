import Narwhal.Model.Server
/-! Association-list maps behave as finite maps under `lookupA` (no well-formedness needed); the index, the router and the
    connection list read as finite maps through `indexOf`, `connsOf`, `phaseOf`.  At the end, what the listings of C05 need of
    names: `sortStrs` keeps the elements, `fullNid` and `fullChan` are injective. -/
namespace Narwhal.Server

@[simp] theorem lookupA_nil {β} (k : Str) : lookupA ([] : List (Str × β)) k = none := rfl

theorem lookupA_cons {β} (k' : Str) (v : β) (rest : List (Str × β)) (k : Str) :
    lookupA ((k', v) :: rest) k = if k' = k then some v else lookupA rest k := rfl

@[simp] theorem lookupA_setA {β} (l : List (Str × β)) (k : Str) (v : β) (k' : Str) :
    lookupA (setA l k v) k' = if k = k' then some v else lookupA l k' := by
  induction l with
  | nil => simp [setA, lookupA_cons]
  | cons x rest ih =>
    obtain ⟨a, b⟩ := x
    simp only [setA]
    split
    · next h => subst h; simp only [lookupA_cons]; split <;> rfl
    · next h =>
      simp only [lookupA_cons, ih]
      by_cases h1 : a = k'
      · subst h1; simp [Ne.symm h]
      · simp [h1]

@[simp] theorem lookupA_eraseA {β} (l : List (Str × β)) (k k' : Str) :
    lookupA (eraseA l k) k' = if k = k' then none else lookupA l k' := by
  induction l with
  | nil => simp [eraseA]
  | cons x rest ih =>
    obtain ⟨a, b⟩ := x
    simp only [eraseA] at ih ⊢
    by_cases ha : a = k
    · subst ha
      simp only [List.filter_cons, ne_eq, not_true_eq_false, decide_false, Bool.false_eq_true, if_false, ih, lookupA_cons]
      split <;> rfl
    · simp only [List.filter_cons, ne_eq, ha, not_false_eq_true, decide_true, if_true, lookupA_cons, ih]
      by_cases h1 : a = k'
      · subst h1; simp [Ne.symm ha]
      · simp [h1]

theorem lookupA_mem {β} {l : List (Str × β)} {k : Str} {v : β} (h : lookupA l k = some v) : (k, v) ∈ l := by
  induction l with
  | nil => simp at h
  | cons x rest ih =>
    obtain ⟨a, b⟩ := x
    rw [lookupA_cons] at h
    split at h
    · next heq => cases h; subst heq; simp
    · exact List.mem_cons_of_mem _ (ih h)

theorem findChan_putChan (cs : List (Str × Chan)) (c : Chan) (h : Str) :
    findChan (putChan cs c) h = if c.handler = h then some c else findChan cs h := lookupA_setA ..

theorem findChan_delChan (cs : List (Str × Chan)) (h0 h : Str) :
    findChan (delChan cs h0) h = if h0 = h then none else findChan cs h := lookupA_eraseA ..

/-! The state after an update is a variable `s'` with an equation for the field that changed, so that the lemmas apply to
structure updates (`rfl`) and to states characterised by a lemma alike. -/

theorem connsOf_same {s s' : Srv} (h : s'.router = s.router) (v : Str) : connsOf s' v = connsOf s v := by
  unfold connsOf; rw [h]

theorem connsOf_setA {s s' : Srv} {u : Str} {l : List Nat} (h : s'.router = setA s.router u l) (v : Str) :
    connsOf s' v = if u = v then l else connsOf s v := by
  unfold connsOf; rw [h, lookupA_setA]; split <;> rfl

theorem connsOf_eraseA {s s' : Srv} {u : Str} (h : s'.router = eraseA s.router u) (v : Str) :
    connsOf s' v = if u = v then [] else connsOf s v := by
  unfold connsOf; rw [h, lookupA_eraseA]; split <;> rfl

theorem indexOf_same {s s' : Srv} (h : s'.index = s.index) (v : Str) : indexOf s' v = indexOf s v := by
  unfold indexOf; rw [h]

theorem indexOf_eraseA {s s' : Srv} {u : Str} (h : s'.index = eraseA s.index u) (v : Str) :
    indexOf s' v = if u = v then [] else indexOf s v := by
  unfold indexOf; rw [h, lookupA_eraseA]; split <;> rfl

theorem mem_indexAdd {s s' : Srv} {m h0 : Str} (hix : s'.index = indexAdd s m h0) (u h : Str) :
    h ∈ indexOf s' u ↔ (u = m ∧ h = h0) ∨ h ∈ indexOf s u := by
  unfold indexOf
  rw [hix]
  unfold indexAdd indexOf
  rw [lookupA_setA]
  by_cases hmu : m = u
  · subst hmu
    rw [if_pos rfl, Option.getD_some]
    split
    · next hin => exact ⟨Or.inr, fun hh => hh.elim (fun e => e.2 ▸ hin) id⟩
    · simp [or_comm]
  · simp [hmu, Ne.symm hmu]

theorem indexOf_indexDel {s s' : Srv} {m h0 : Str} (hix : s'.index = indexDel s m h0) (u : Str) :
    indexOf s' u = if m = u then (indexOf s m).filter (· ≠ h0) else indexOf s u := by
  unfold indexOf
  rw [hix]
  unfold indexDel
  cases hl : lookupA s.index m with
  | none =>
    show (lookupA s.index u).getD [] = _
    split
    · next e => rw [← e, hl]; rfl
    · rfl
  | some cur =>
    -- an emptied entry is erased, and reads as empty all the same
    show (lookupA (if _ then _ else _) u).getD [] = _
    split
    · next hemp =>
      rw [lookupA_eraseA]
      split
      · exact (List.isEmpty_iff.mp hemp).symm
      · rfl
    · rw [lookupA_setA]; split <;> rfl

theorem mem_indexDel {s s' : Srv} {m h0 : Str} (hix : s'.index = indexDel s m h0) (u h : Str) :
    h ∈ indexOf s' u ↔ h ∈ indexOf s u ∧ ¬ (u = m ∧ h = h0) := by
  rw [indexOf_indexDel hix]
  split
  · next e => subst e; simp [List.mem_filter]
  · next ne => exact ⟨fun hm => ⟨hm, fun e => ne e.1.symm⟩, And.left⟩

theorem indexDel_absent {s : Srv} {m h0 : Str} (h : lookupA s.index m = none) : indexDel s m h0 = s.index := by
  unfold indexDel; rw [h]

def phaseOf (s : Srv) (k : Nat) : Option Phase := (findConn s.conns k).map (·.phase)

theorem phaseOf_eq_some {s : Srv} {k : Nat} {p : Phase} :
    phaseOf s k = some p ↔ ∃ c, findConn s.conns k = some c ∧ c.phase = p := by
  simp [phaseOf]

theorem phaseOf_eq_none {s : Srv} {k : Nat} : phaseOf s k = none ↔ findConn s.conns k = none := by
  simp [phaseOf]

theorem findConn_eq_find? (cs : List Conn) (k : Nat) : findConn cs k = cs.find? (·.id = k) := by
  induction cs with
  | nil => rfl
  | cons c rest ih =>
    rw [findConn, ih, List.find?_cons]
    by_cases h : c.id = k <;> simp [h]

theorem findConn_id {cs : List Conn} {k : Nat} {c : Conn} (h : findConn cs k = some c) : c.id = k := by
  rw [findConn_eq_find?] at h
  simpa using List.find?_some h

theorem findConn_filter (cs : List Conn) (k k' : Nat) :
    findConn (cs.filter (·.id ≠ k)) k' = if k' = k then none else findConn cs k' := by
  rw [findConn_eq_find?, findConn_eq_find?, List.find?_filter]
  split
  · next e => exact List.find?_eq_none.mpr fun c _ => by simp [e]
  · next ne =>
    congr 1
    funext c
    by_cases h : c.id = k' <;> simp [h, ne]

theorem findConn_map (cs : List Conn) (k : Nat) {f : Conn → Conn} (hf : ∀ c, (f c).id = c.id) :
    findConn (cs.map f) k = (findConn cs k).map f := by
  rw [findConn_eq_find?, findConn_eq_find?, List.find?_map]
  congr 2
  funext c
  exact congrArg (fun i => decide (i = k)) (hf c)

theorem findConn_append (cs : List Conn) (c : Conn) (k : Nat) :
    findConn (cs ++ [c]) k = (findConn cs k).or (if c.id = k then some c else none) := by
  rw [findConn_eq_find?, findConn_eq_find?, List.find?_append, List.find?_singleton]
  simp only [decide_eq_true_eq]

theorem phaseOf_withoutConn (s : Srv) (k k' : Nat) :
    phaseOf (withoutConn s k) k' = if k' = k then none else phaseOf s k' := by
  unfold phaseOf withoutConn; rw [findConn_filter]; split <;> rfl

theorem phaseOf_setPhase (s : Srv) (k k' : Nat) (p : Phase) :
    phaseOf (setPhase s k p) k' = if k' = k then (phaseOf s k).map (fun _ => p) else phaseOf s k' := by
  unfold phaseOf setPhase
  rw [findConn_map _ _ (fun c => by split <;> rfl), Option.map_map]
  split
  · next e => subst e; rw [Option.map_map]; exact Option.map_congr fun c hc => by simp [findConn_id hc]
  · next ne => exact Option.map_congr fun c hc => by simp [findConn_id hc, ne]

theorem phaseOf_register (s : Srv) (k k' : Nat) (u : Str) :
    phaseOf (register s k u) k' = if k' = k then (phaseOf s k).map (fun _ => .authed u) else phaseOf s k' :=
  phaseOf_setPhase _ k k' _

theorem phaseOf_open {s s' : Srv} {k : Nat} {p : Phase} (hcn : s'.conns = s.conns ++ [{ id := k, phase := p }])
    (hk : phaseOf s k = none) (k' : Nat) : phaseOf s' k' = if k' = k then some p else phaseOf s k' := by
  unfold phaseOf at hk ⊢
  rw [hcn, findConn_append]
  split
  · next e => subst e; rw [Option.map_eq_none_iff.mp hk, if_pos rfl]; rfl
  · next ne => rw [if_neg (Ne.symm ne), Option.or_none]

theorem mem_insertSorted (x y : Str) (l : List Str) : y ∈ insertSorted x l ↔ y = x ∨ y ∈ l := by
  induction l with
  | nil => simp [insertSorted]
  | cons a as ih =>
    simp only [insertSorted]
    split
    · simp only [List.mem_cons, ih, or_left_comm]
    · simp only [List.mem_cons]

theorem mem_sortStrs (y : Str) (l : List Str) : y ∈ sortStrs l ↔ y ∈ l := by
  unfold sortStrs
  induction l with
  | nil => simp
  | cons a as ih => simp only [List.foldr_cons, mem_insertSorted, ih, List.mem_cons]

theorem fullNid_inj (s : Srv) (a b : Str) (h : fullNid s a = fullNid s b) : a = b := by
  unfold fullNid at h
  rw [List.append_assoc, List.append_assoc] at h
  exact List.append_cancel_right h

theorem fullChan_inj (s : Srv) (a b : Str) (h : fullChan s a = fullChan s b) : a = b := by
  unfold fullChan at h
  rw [List.append_assoc, List.append_assoc, List.append_assoc, List.append_assoc] at h
  exact List.append_cancel_right (List.append_cancel_left h)

end Narwhal.Server
