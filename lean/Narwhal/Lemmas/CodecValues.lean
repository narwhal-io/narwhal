import Narwhal.Model.Codec
/-!
# Codec, value level

Numbers and booleans are written as strings that need no escaping (`encScalar_eq`), so everything about one encoded value is a
fact about `encStr` and its two shapes (`encStr_cases`): the bytes as they are, or between `\d` and `\d` for a delimiter `d`
that is not among them.
-/
namespace Narwhal.Codec

theorem isEsc_iff {d : Nat} : isEsc d = true ↔ d = 34 ∨ d = 39 ∨ d = 58 ∨ d = 42 := by simp [isEsc, or_assoc]

theorem mem_escChars {d : Nat} : d ∈ escChars ↔ isEsc d = true := by simp [escChars, isEsc, or_assoc]

theorem isSpace_eq_false {b : Nat} : isSpace b = false ↔ b ≠ 32 ∧ b ≠ 9 ∧ b ≠ 11 ∧ b ≠ 12 ∧ b ≠ 13 := by
  simp [isSpace, and_assoc]

theorem isEsc_not_space {d : Nat} (h : isEsc d = true) : isSpace d = false ∧ d ≠ 0 := by
  have := isEsc_iff.mp h
  rw [isSpace_eq_false]
  omega

/-- bytes that neither end a token nor are skipped before one -/
def Plain (e : Bytes) : Prop := ∀ b ∈ e, b ≠ 0 ∧ isSpace b = false

@[simp] theorem seekChar_space (t : Bytes) : seekChar (32 :: t) = seekChar t := by
  simp [seekChar, isSpace]

theorem seekChar_plain {e : Bytes} (t : Bytes) (hne : e ≠ []) (h : Plain e) : seekChar (e ++ t) = some (e ++ t) := by
  cases e with
  | nil => exact absurd rfl hne
  | cons b r => simp [seekChar, h b (by simp)]

/-- what may follow a value on an encoded line: the end, or a space -/
def Sep (tail : Bytes) : Prop := tail = [] ∨ ∃ t, tail = 32 :: t

theorem Sep.seek_drop {tail : Bytes} (h : Sep tail) : seekChar (tail.drop 1) = seekChar tail := by
  rcases h with rfl | ⟨t, rfl⟩ <;> simp

theorem token_of_plain {s : Bytes} (tail : Bytes) (hs : Plain s) (ht : Sep tail) :
    tokenOf (s ++ tail) = s ∧ afterToken (s ++ tail) = tail.drop 1 := by
  induction s with
  | nil => rcases ht with rfl | ⟨t, rfl⟩ <;> simp [tokenOf, afterToken, isSpace]
  | cons b s ih =>
    have hb := hs b (by simp)
    have := ih (fun x hx => hs x (by simp [hx]))
    simp [tokenOf, afterToken, hb.1, hb.2, this.1, this.2]

theorem readString_plain {e : Bytes} (tail : Bytes) (hne : e ≠ []) (h : Plain e) (ht : Sep tail) :
    readString (e ++ tail) = some (e, tail.drop 1) := by
  have := token_of_plain tail h ht
  simp [readString, seekChar_plain tail hne h, this.1, this.2]

theorem readEscaped_eq_readString {s s1 : Bytes} (h : seekChar s = some s1) (hl : looksEscaped s1 = false) :
    readEscaped s = some (readString s) := by
  unfold readEscaped readString
  rw [h]
  match s1, hl with
  | [], _ | [_], _ => rfl
  | b0 :: b1 :: r, hl => simp only [looksEscaped] at hl; simp [hl]

theorem looksEscaped_append {e : Bytes} (tail : Bytes) (hne : e ≠ []) (ht : Sep tail) :
    looksEscaped (e ++ tail) = looksEscaped e := by
  match e, hne with
  | [b], _ => rcases ht with rfl | ⟨t, rfl⟩ <;> simp [looksEscaped, isEsc]
  | _ :: _ :: _, _ => rfl

theorem readEscaped_plain {e : Bytes} (tail : Bytes) (hne : e ≠ []) (h : Plain e) (hl : looksEscaped e = false)
    (ht : Sep tail) : readEscaped (e ++ tail) = some (some (e, tail.drop 1)) := by
  rw [readEscaped_eq_readString (seekChar_plain tail hne h) (by rw [looksEscaped_append tail hne ht, hl]),
    readString_plain tail hne h ht]

/-- a backslash in the value is followed by another byte of the value or by the closing backslash, never by `d` -/
theorem scanEscaped_value (d : Nat) (hd : d ≠ 92) (s tail acc : Bytes) (mk : Bool)
    (hs : ∀ b ∈ s, b ≠ d ∧ b ≠ 0) :
    scanEscaped d (s ++ 92 :: d :: tail) acc mk = some (acc.reverse ++ s, tail) := by
  induction s generalizing acc mk with
  | nil => simp [scanEscaped, backslash, hd]
  | cons b s ih =>
    have hb := hs b (by simp)
    have := fun acc mk => ih acc mk (fun x hx => hs x (by simp [hx]))
    by_cases h92 : b = 92 <;> simp [scanEscaped, backslash, h92, hb.1, hb.2, this]

theorem readEscaped_delimited {d : Nat} (hd : isEsc d = true) {s : Bytes} (tail : Bytes) (hs : ∀ b ∈ s, b ≠ d ∧ b ≠ 0) :
    readEscaped (92 :: d :: s ++ 92 :: d :: tail) = some (some (s, tail)) := by
  have := scanEscaped_value d (by have := isEsc_iff.mp hd; omega) s tail [] false hs
  simpa [readEscaped, seekChar, isSpace, backslash, hd] using this

/-- the empty string is of the second shape: it is written `\"\"` -/
theorem encStr_cases {s e : Bytes} (he : encStr s = .ok e) :
    (∀ b ∈ s, b ≠ 10 ∧ b ≠ 0) ∧
    ((s ≠ [] ∧ looksEscaped s = false ∧ s.any isSpace = false ∧ e = s) ∨
     (∃ d, isEsc d = true ∧ d ∉ s ∧ e = 92 :: d :: s ++ [92, d])) := by
  unfold encStr at he
  split at he
  · cases he
  next hbad =>
  refine ⟨by simpa using hbad, ?_⟩
  split at he
  · next hemp =>
    cases he
    exact .inr ⟨34, rfl, by simp [List.isEmpty_iff.mp hemp], by simp [List.isEmpty_iff.mp hemp, backslash]⟩
  next hemp =>
  split at he
  · next hplain =>
    cases he
    simp only [Bool.and_eq_true, Bool.not_eq_true'] at hplain
    exact .inl ⟨by simpa using hemp, hplain.1, hplain.2, rfl⟩
  split at he
  · next d hfind =>
    cases he
    exact .inr ⟨d, mem_escChars.mp (List.mem_of_find?_eq_some hfind), by simpa using List.find?_some hfind,
      by simp [backslash]⟩
  · cases he

theorem encStr_plain {s : Bytes} (hne : s ≠ []) (h : ∀ b ∈ s, b ≠ 10 ∧ b ≠ 0) (hl : looksEscaped s = false)
    (hsp : s.any isSpace = false) : encStr s = .ok s := by
  have hbad : s.any (fun b => decide (b = 10) || decide (b = 0)) = false := by simpa using h
  simp [encStr, hbad, hne, hl, hsp]

def allDigits (l : List Nat) : Prop := ∀ d ∈ l, 48 ≤ d ∧ d ≤ 57

theorem parseDigits_eq_foldl {l : Bytes} (h : allDigits l) (a : Nat) :
    parseDigits l a = some (l.foldl (fun a d => a * 10 + (d - 48)) a) := by
  induction l generalizing a with
  | nil => rfl
  | cons d l ih =>
    have hd := h d (by simp)
    simp [parseDigits, hd.1, hd.2, ih (fun x hx => h x (by simp [hx]))]

theorem digitsRev_spec (fuel n : Nat) (h : n < fuel) :
    (digitsRev fuel n).foldr (fun d a => a * 10 + (d - 48)) 0 = n ∧ allDigits (digitsRev fuel n) ∧
      digitsRev fuel n ≠ [] := by
  induction fuel generalizing n with
  | zero => omega
  | succ f ih =>
    unfold digitsRev
    split
    · simp [allDigits]; omega
    · obtain ⟨hv, hd, _⟩ := ih (n / 10) (by omega)
      refine ⟨by simp only [List.foldr_cons, hv]; omega, ?_, by simp⟩
      intro d hd'
      rcases List.mem_cons.mp hd' with rfl | hd'
      · omega
      · exact hd d hd'

theorem digits_spec (n : Nat) : parseDigits (digits n) 0 = some n ∧ allDigits (digits n) ∧ digits n ≠ [] := by
  obtain ⟨hv, hd, hne⟩ := digitsRev_spec (n + 1) n (by omega)
  have hd' : allDigits (digits n) := fun b hb => hd b (by simpa [digits] using hb)
  refine ⟨?_, hd', by simpa [digits] using hne⟩
  rw [parseDigits_eq_foldl hd', digits, List.foldl_reverse, hv]

theorem parseUnsigned_digits {max n : Nat} (h : n ≤ max) : parseUnsigned max (digits n) = some n := by
  obtain ⟨hp, hd, hne⟩ := digits_spec n
  have hbody : stripPlus (digits n) = digits n := by
    unfold stripPlus
    split
    · next h' => have := hd 43 (by simp [h']); omega
    · rfl
  simp [parseUnsigned, hbody, hp, hne, h]

theorem utf8Valid_ascii (s : Bytes) (h : ∀ b ∈ s, b < 128) : utf8Valid s = true := by
  induction s with
  | nil => rfl
  | cons b s ih =>
    unfold utf8Valid
    simp [h b (by simp), ih (fun x hx => h x (by simp [hx]))]

/-- the values a field of type `ty` can hold (what the Rust types guarantee) -/
def ScalarWT : Ty → Scalar → Prop
  | .u8, .num n => n ≤ 255
  | .u16, .num n => n ≤ 65535
  | .u32, .num n => n ≤ 4294967295
  | .bool, .bool _ => True
  | .atom, .str s => utf8Valid s = true
  | _, _ => False

/-- the bytes of a value before escaping: what the scanner hands to `Parameter::as_*` -/
def rawOf : Scalar → Bytes
  | .num n => digits n
  | .bool b => if b then trueBytes else falseBytes
  | .str s => s

def scalarsOf : FVal → List Scalar
  | .reg x => [x]
  | .opt none => []
  | .opt (some x) => [x]
  | .vec vs => vs

theorem encScalar_eq (x : Scalar) : encScalar x = encStr (rawOf x) := by
  cases x with
  | str s => rfl
  | bool b => cases b <;> rfl
  | num n =>
    obtain ⟨_, hd, hne⟩ := digits_spec n
    have hsp : (digits n).any isSpace = false :=
      List.any_eq_false.mpr fun b hb => by have := hd b hb; simp [isSpace_eq_false]; omega
    have hl : looksEscaped (digits n) = false := by
      match hdn : digits n with
      | b0 :: _ :: _ =>
        have : b0 ≠ 92 := by have := hd b0 (by simp [hdn]); omega
        simp [looksEscaped, backslash, this]
      | [] | [_] => rfl
    exact (encStr_plain hne (fun b hb => by have := hd b hb; omega) hl hsp).symm

theorem decScalar_rawOf {ty : Ty} {x : Scalar} (hwt : ScalarWT ty x) : decScalar ty (rawOf x) = some x := by
  cases x with
  | str s => cases ty <;> simp only [ScalarWT] at hwt; simp [decScalar, rawOf, hwt]
  | bool b => cases ty <;> simp only [ScalarWT] at hwt; cases b <;> rfl
  | num n =>
    have hutf : utf8Valid (digits n) = true :=
      utf8Valid_ascii _ fun b hb => by have := (digits_spec n).2.1 b hb; omega
    cases ty <;> simp only [ScalarWT] at hwt <;> simp [decScalar, rawOf, hutf, parseUnsigned_digits hwt]

/-- what `fmt_param` writes for a value, `read_escaped_string` reads back as the value's bytes, whatever follows on
    the line -/
theorem readEscaped_encScalar {x : Scalar} {e : Bytes} (tail : Bytes) (he : encScalar x = .ok e) (ht : Sep tail) :
    ∃ tail', readEscaped (e ++ tail) = some (some (rawOf x, tail')) ∧ seekChar tail' = seekChar tail := by
  obtain ⟨h0, ⟨hne, hle, hsp, rfl⟩ | ⟨d, hesc, hnotin, rfl⟩⟩ := encStr_cases (encScalar_eq x ▸ he)
  · have hplain : Plain (rawOf x) := fun b hb => ⟨(h0 b hb).2, by simpa using List.any_eq_false.mp hsp b hb⟩
    exact ⟨_, readEscaped_plain tail hne hplain hle ht, ht.seek_drop⟩
  · exact ⟨tail, by simpa using readEscaped_delimited hesc tail fun b hb => ⟨fun e => hnotin (e ▸ hb), (h0 b hb).2⟩, rfl⟩

theorem encScalar_ne_nil {x : Scalar} {e : Bytes} (he : encScalar x = .ok e) : e ≠ [] := by
  obtain ⟨_, ⟨hne, _, _, rfl⟩ | ⟨d, _, _, rfl⟩⟩ := encStr_cases (encScalar_eq x ▸ he)
  · exact hne
  · simp

theorem encScalar_no_lf {x : Scalar} {e : Bytes} (he : encScalar x = .ok e) : 10 ∉ e := by
  obtain ⟨h0, hshape⟩ := encStr_cases (encScalar_eq x ▸ he)
  have h10 : 10 ∉ rawOf x := fun h => (h0 10 h).1 rfl
  rcases hshape with ⟨_, _, _, rfl⟩ | ⟨d, hesc, _, rfl⟩
  · exact h10
  · have := isEsc_iff.mp hesc
    simp [h10]; omega

end Narwhal.Codec
