import Narwhal.Lemmas.Assoc
import Narwhal.Lemmas.Lists
namespace Narwhal.Server

/-- `Message::correlation_id` of a server frame -/
def Frame.corrId : Frame → Option Nat
  | .joinAck id _ | .leaveAck id | .broadcastAck id | .membersAck id _ _ _ | .channelsAck id _ _
  | .chanAcl id _ _ _ _ | .chanConfig id _ _ _ | .setAclAck id | .setConfigAck id | .modDirectAck id => some id
  | .error id _ => id
  | _ => none

def Frame.isEvent : Frame → Bool
  | .event .. => true
  | _ => false

def Frame.isMessage : Frame → Bool
  | .message .. => true
  | _ => false

/-- `Message::correlation_id` (`crates/protocol/src/message.rs`), read on the kinds a client sends -/
def Req.id? : Req → Option Nat
  | .join id _ _ | .leave id _ _ | .broadcast id _ _ _ | .members id _ _ _ | .channels id _ _ _
  | .getAcl id _ _ _ _ | .setAcl id _ _ _ _ | .getConfig id _ | .setConfig id _ _ _ => some id
  | .modDirect id _ => id
  | _ => none

def Emit.plainEvent (e : Emit) : Prop := e.frame.isEvent = true ∧ e.close = false

theorem Frame.corrId_of_isMessage {f : Frame} (h : f.isMessage = true) : f.corrId = none := by
  cases f with
  | message => rfl
  | _ => cases h

theorem Frame.of_isEvent {f : Frame} (h : f.isEvent = true) : f.corrId = none ∧ f.isMessage = false := by
  cases f with
  | event => exact ⟨rfl, rfl⟩
  | _ => cases h

theorem routeTo_mem {s : Srv} {us : List Str} {excl : Option Nat} {f : Frame} {e : Emit}
    (h : e ∈ routeTo s us excl f) :
    e.frame = f ∧ e.close = false ∧ some e.conn ≠ excl ∧ ∃ u ∈ us, e.conn ∈ connsOf s u := by
  simp only [routeTo, List.mem_flatMap, List.mem_map, List.mem_filter, decide_eq_true_eq] at h
  obtain ⟨u, hu, k, ⟨hk, hne⟩, rfl⟩ := h
  exact ⟨rfl, rfl, hne, u, hu, hk⟩

theorem routeTo_event_plain {s : Srv} {us excl k c n o} :
    ∀ e ∈ routeTo s us excl (.event k c n o), e.plainEvent := by
  intro e he
  obtain ⟨hf, hc, _⟩ := routeTo_mem he
  exact ⟨by rw [hf]; rfl, hc⟩

theorem routeTo_append (s : Srv) (a b : List Str) (excl : Option Nat) (f : Frame) :
    routeTo s (a ++ b) excl f = routeTo s a excl f ++ routeTo s b excl f := by
  simp [routeTo]

theorem routeTo_once (s : Srv) (us : List Str) (excl : Option Nat) (f : Frame) (k' : Nat) (t : Str)
    (hk : some k' ≠ excl) (ht : t ∈ us) (hnodup : us.Nodup)
    (honce : ((connsOf s t).filter (· = k')).length = 1)
    (hother : ∀ t' ∈ us, t' ≠ t → k' ∉ connsOf s t') :
    ((routeTo s us excl f).filter (fun e => e.conn = k')).length = 1 := by
  rw [← List.countP_eq_length_filter, routeTo, List.countP_flatMap_of_unique ht hnodup, List.countP_map, List.countP_filter,
    ← honce, ← List.countP_eq_length_filter]
  · exact List.countP_congr fun x _ => by by_cases hx : x = k' <;> simp [hx, hk]
  · intro t' ht' hne e he
    obtain ⟨k, hk', rfl⟩ := List.mem_map.mp he
    exact decide_eq_false fun e => hother t' ht' hne (e ▸ (List.mem_filter.mp hk').1)

end Narwhal.Server
