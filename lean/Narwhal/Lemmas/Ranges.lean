import Narwhal.Model.Id
/-!
# Range tables (`Id.inRanges`) and the one fact about the generated Unicode tables

Membership of a code point in a range table whose lows ascend is settled at the first range that does not end below it
(`inGap_sound`).  `decide` on `ws.all (!inRanges rs ·)` compares every code with every range; `inGap` walks the table once per
code, with `Nat.ble` / `Nat.blt`, which the kernel evaluates in one step.
-/
namespace Narwhal.Id
open Narwhal.Generated

def ascLows : List (Nat × Nat) → Bool
  | a :: b :: t => Nat.ble a.1 b.1 && ascLows (b :: t)
  | _ => true

def inGap (n : Nat) : List (Nat × Nat) → Bool
  | r :: rs => bif Nat.blt r.2 n then inGap n rs else Nat.blt n r.1
  | [] => true

theorem inRanges_cons (r : Nat × Nat) (rs : List (Nat × Nat)) (n : Nat) :
    inRanges (r :: rs) n = ((r.1 ≤ n && n ≤ r.2) || inRanges rs n) := by
  simp [inRanges]

theorem inRanges_of_lt {n : Nat} : ∀ {rs : List (Nat × Nat)}, ascLows rs = true → (∀ r ∈ rs.head?, n < r.1) → inRanges rs n = false
  | [], _, _ => rfl
  | [r], _, h => by have := h r rfl; simp [inRanges]; omega
  | r :: b :: t, ha, h => by
    have := h r rfl
    simp only [ascLows, Bool.and_eq_true, Nat.ble_eq] at ha
    rw [inRanges_cons, inRanges_of_lt ha.2 (fun x hx => by cases hx; omega)]
    simp; omega

theorem inGap_sound {n : Nat} : ∀ {rs : List (Nat × Nat)}, ascLows rs = true → inGap n rs = true → inRanges rs n = false
  | [], _, _ => rfl
  | r :: rs, ha, h => by
    unfold inGap at h
    cases hlt : Nat.blt r.2 n <;> rw [hlt] at h
    · exact inRanges_of_lt ha (fun x hx => by cases hx; simpa using h)
    · have : ascLows rs = true := by
        cases rs with
        | nil => rfl
        | cons b t => simp only [ascLows, Bool.and_eq_true] at ha; exact ha.2
      rw [inRanges_cons, inGap_sound this h]
      simp at hlt ⊢; omega

/-- **table fact**, re-decided by the kernel on every regeneration of `Generated/Unicode.lean`: `'@'` (64) and the whitespace code
    points lie in the gaps of the alphanumeric ranges -/
theorem not_alnum {w : Nat} (hw : w ∈ 64 :: whitespaceCodes) : inRanges alnumRanges w = false := by
  have h : (ascLows alnumRanges && (64 :: whitespaceCodes).all (inGap · alnumRanges)) = true := by decide +kernel
  rw [Bool.and_eq_true, List.all_eq_true] at h
  exact inGap_sound h.1 (h.2 w hw)

end Narwhal.Id

namespace Narwhal.Server
open Narwhal.Generated

theorem usernameChar_ok (c : Char) (h : Id.isUsernameChar c = true) : Id.isWhitespace c = false ∧ c ≠ '@' := by
  simp only [Id.isUsernameChar, Bool.or_eq_true, beq_iff_eq] at h
  rcases h with ((h | rfl) | rfl) | rfl
  · have hc : c.toNat ∉ 64 :: whitespaceCodes := fun hm => by rw [Id.isAlnum, Id.not_alnum hm] at h; cases h
    refine ⟨?_, ?_⟩
    · simpa [Id.isWhitespace] using fun hw => hc (List.mem_cons_of_mem _ hw)
    · rintro rfl; exact hc List.mem_cons_self
  · decide
  · decide
  · decide

end Narwhal.Server
