import Narwhal.Model.Id
import Narwhal.Model.Acl
import Narwhal.Model.Server
import Narwhal.Lemmas.Assoc
import Narwhal.Lemmas.Emit
import Narwhal.Lemmas.Checks
import Narwhal.Lemmas.Cleanup
import Narwhal.Lemmas.Handlers
import Narwhal.Lemmas.Invariants
import Narwhal.Theorems.C01
import Narwhal.Theorems.C03
import Narwhal.Theorems.C04
import Narwhal.Lemmas.Views
import Narwhal.Theorems.C05
import Narwhal.Lemmas.Ranges
import Narwhal.Theorems.C06
import Narwhal.Theorems.C12
import Narwhal.Theorems.C14
import Narwhal.Theorems.C18
import Narwhal.Model.Reader
import Narwhal.Theorems.C10
import Narwhal.Model.Codec
import Narwhal.Lemmas.CodecValues
import Narwhal.Lemmas.CodecParams
import Narwhal.Generated.Schema
import Narwhal.Theorems.C11
import Narwhal.Model.Sched
import Narwhal.Generated.Locks
import Narwhal.Theorems.C13
import Narwhal.Theorems.C13Table
import Narwhal.Model.Direct
import Narwhal.Theorems.C17
import Narwhal.Model.S2m
import Narwhal.Theorems.C08S2m
import Narwhal.Model.Writer
import Narwhal.Theorems.C15
import Narwhal.Model.Pool
import Narwhal.Theorems.C19
import Narwhal.Model.Client
import Narwhal.Theorems.C16
import Narwhal.Generated.Timers
import Narwhal.Model.Timers
import Narwhal.Theorems.C20
import Narwhal.Model.Limits
import Narwhal.Theorems.C14Limits
import Narwhal.Generated.Dispatch
import Narwhal.Model.Links
import Narwhal.Theorems.C06Links
import Narwhal.Theorems.C11Full
import Narwhal.Generated.Writer
import Narwhal.Model.Batch
import Narwhal.Theorems.C13Batch
import Narwhal.Generated.PoolOrder
import Narwhal.Theorems.C19Table
import Narwhal.Model.Micro
import Narwhal.Generated.Steps
import Narwhal.Lemmas.Micro
import Narwhal.Theorems.C05Micro
import Narwhal.Generated.Errors
import Narwhal.Theorems.C12Table
import Narwhal.Model.Names
import Narwhal.Theorems.C07Names
import Narwhal.Generated.ClientIds
import Narwhal.Theorems.C16Ids
import Narwhal.Model.MicroB
import Narwhal.Theorems.C01Micro
import Narwhal.Model.MicroL
import Narwhal.Theorems.C05MicroL
